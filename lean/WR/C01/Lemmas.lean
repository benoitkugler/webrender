import WR.C01.Model
namespace WR.C01

theorem pickRoot_go_skip (pre ks : List Kind) (h : ∀ k ∈ pre, ∀ t, k ≠ .element t) (i : Nat) :
    pickRoot.go i (pre ++ ks) = pickRoot.go (i + pre.length) ks := by
  induction pre generalizing i with
  | nil => rfl
  | cons k pre ih =>
    have ih := ih (fun k hk => h k (List.mem_cons_of_mem _ hk)) (i + 1)
    rw [Nat.add_assoc, Nat.add_comm 1] at ih
    cases k with
    | element t => exact absurd rfl (h _ List.mem_cons_self t)
    | _ => exact ih

theorem pickRoot_first_element (pre post : List Kind) (t : String)
    (h : ∀ k ∈ pre, ∀ t, k ≠ .element t) :
    pickRoot (pre ++ .element t :: post) = .node pre.length (.element t) := by
  rw [pickRoot, pickRoot_go_skip pre _ h, Nat.zero_add, pickRoot.go]

theorem parseShape_prefix_no_element (dt : Bool) (pre : Nat) :
    ∀ k ∈ (if dt then [Kind.doctype] else []) ++ List.replicate pre Kind.comment, ∀ t, k ≠ .element t := by
  intro k hk t
  rcases List.mem_append.1 hk with hk | hk
  · cases dt
    · cases hk
    · cases List.mem_singleton.1 hk; exact Kind.noConfusion
  · cases List.eq_of_mem_replicate hk; exact Kind.noConfusion

theorem isBlank_flip {Pos : Type} (s : PageState Pos) (h : isBlank s = true) :
    isBlank { s with right := !s.right } = false := by
  obtain ⟨_, r, w⟩ := s
  cases w with
  | none => cases h
  | some w => exact (by decide : ∀ w r : Bool, (w != r) = true → (w != !r) = false) w r h

/-- two per unit of content left (a content page and the blank page that may precede it), one for the last
    content page, one more if the coming page is blank -/
def pagesLeft {Pos : Type} (μ : Pos → Nat) (s : PageState Pos) : Nat :=
  2 * μ s.resume + if isBlank s then 2 else 1

theorem pagesLeft_le {Pos : Type} (μ : Pos → Nat) (s : PageState Pos) :
    1 ≤ pagesLeft μ s ∧ pagesLeft μ s ≤ 2 * μ s.resume + 2 := by
  unfold pagesLeft; split <;> omega

theorem pageLoop_terminates {Pos : Type} (layoutPage : LayoutPage Pos) (μ : Pos → Nat)
    (progress : ∀ p r p' w, layoutPage p r = (some p', w) → μ p' < μ p)
    (fuel : Nat) (s : PageState Pos) (made : Nat) (h : pagesLeft μ s ≤ fuel) :
    ∃ k, pageLoop layoutPage fuel s made = some k ∧ k ≤ made + pagesLeft μ s := by
  induction fuel generalizing s made with
  | zero => exact absurd h (by have := pagesLeft_le μ s; omega)
  | succ fuel ih =>
    rw [pageLoop]
    cases hb : isBlank s with
    | true =>
      have hs : pagesLeft μ { s with right := !s.right } + 1 = pagesLeft μ s := by
        simp only [pagesLeft, isBlank_flip s hb, hb]; rfl
      obtain ⟨k, hk, hle⟩ := ih { s with right := !s.right } (made + 1) (by omega)
      exact ⟨k, hk, by omega⟩
    | false =>
      have hs : pagesLeft μ s = 2 * μ s.resume + 1 := by simp only [pagesLeft, hb]; rfl
      match hl : layoutPage s.resume s.right with
      | (none, _) => exact ⟨made + 1, rfl, by omega⟩
      | (some p, w) =>
        -- a content page: even if a blank page follows, two pages are paid for by the progress
        have hμ := progress _ _ _ _ hl
        have hp : pagesLeft μ { resume := p, right := !s.right, want := w } ≤ 2 * μ p + 2 :=
          (pagesLeft_le μ _).2
        obtain ⟨k, hk, hle⟩ := ih { resume := p, right := !s.right, want := w } (made + 1) (by omega)
        exact ⟨k, hk, by omega⟩

theorem fill_length_le (h : Nat) (bs : List Block) (used : Nat) (first : Bool) :
    (fill h bs used first).length ≤ bs.length := by
  fun_induction fill h bs used first <;> simp only [List.length_cons, List.length_nil] <;> omega

theorem keepValid_append {α β ε : Type} (f : α → Except ε (List β)) (xs ys : List α) :
    keepValid f (xs ++ ys) = keepValid f xs ++ keepValid f ys := by
  induction xs with
  | nil => rfl
  | cons x xs ih =>
    simp only [List.cons_append, keepValid]
    cases f x <;> simp only [ih, List.append_assoc]

end WR.C01
