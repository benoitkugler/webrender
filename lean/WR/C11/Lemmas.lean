/-
  C11 — what `fill` returns is characterised by the clauses of the specification that concern one line
  (`Taken`); the specification unfolds line by line into such clauses (`greedyOK_cons_iff`).  The chunker
  conserves content: the units, concatenated, are the paragraph's tokens without the collapsible spaces and
  forced breaks, in order.
-/
import WR.C11.Spec
namespace WR.C11

/-- width added by the units that follow the first one -/
def extW (f : Font) (l : List Item) : Nat := (l.map fun b => b.gap + b.w f).sum

theorem lineW_cons (f : Font) (a : Item) (l : List Item) : lineW f (a :: l) = a.w f + extW f l := rfl

theorem extW_cons (f : Font) (b : Item) (l : List Item) : extW f (b :: l) = b.gap + b.w f + extW f l := by
  simp [extW]

theorem extW_nil (f : Font) : extW f [] = 0 := rfl

theorem add_extW_cons (f : Font) (cur : Nat) (c : Item) (l : List Item) :
    cur + extW f (c :: l) = cur + c.gap + c.w f + extW f l := by
  rw [extW_cons]; omega

theorem fill_append (f : Font) (wrap : Bool) (avail : Int) (cur : Nat) (l : List Item) :
    (fill f wrap avail cur l).1 ++ (fill f wrap avail cur l).2 = l := by
  induction l generalizing cur with
  | nil => rfl
  | cons b rest ih =>
    rw [fill]
    split
    · exact congrArg (b :: ·) (ih _)
    · rfl

def Taken (f : Font) (wrap : Bool) (avail : Int) (cur : Nat) (l tl : List Item) : Prop :=
  (∀ b ∈ l, b.forced = false) ∧
  (wrap = true → l = [] ∨ ((cur + extW f l : Nat) : Int) ≤ avail) ∧
  ∀ b, tl.head? = some b →
    b.forced = true ∨ (wrap = true ∧ ((cur + extW f l + b.gap + b.w f : Nat) : Int) > avail)

theorem ends_iff_not_taken (forced wrap : Bool) (x avail : Int) :
    (forced = true ∨ (wrap = true ∧ x > avail)) ↔ ¬ (forced = false ∧ (wrap = false ∨ x ≤ avail)) := by
  cases forced <;> cases wrap <;> simp [Int.not_le]

theorem taken_nil (f : Font) (wrap : Bool) (avail : Int) (cur : Nat) (tl : List Item) :
    Taken f wrap avail cur [] tl ↔ ∀ b, tl.head? = some b →
      ¬ (b.forced = false ∧ (wrap = false ∨ ((cur + b.gap + b.w f : Nat) : Int) ≤ avail)) := by
  simp only [Taken, extW_nil, Nat.add_zero, ends_iff_not_taken]
  exact ⟨fun h => h.2.2, fun h => ⟨nofun, fun _ => Or.inl trivial, h⟩⟩

theorem taken_cons (f : Font) (wrap : Bool) (avail : Int) (cur : Nat) (c : Item) (l tl : List Item) :
    Taken f wrap avail cur (c :: l) tl ↔
      (c.forced = false ∧ (wrap = false ∨ ((cur + c.gap + c.w f : Nat) : Int) ≤ avail)) ∧
      Taken f wrap avail (cur + c.gap + c.w f) l tl := by
  simp only [Taken, add_extW_cons, List.forall_mem_cons]
  constructor
  · rintro ⟨⟨hc, hl⟩, hfit, hmax⟩
    refine ⟨⟨hc, ?_⟩, hl, fun hw => ?_, hmax⟩
    · cases hw : wrap with
      | false => exact Or.inl rfl
      | true =>
        rcases hfit hw with h | h
        · cases h
        · exact Or.inr (by omega)
    · rcases hfit hw with h | h
      · cases h
      · exact Or.inr h
  · rintro ⟨⟨hc, hcw⟩, hl, hfit, hmax⟩
    refine ⟨⟨hc, hl⟩, fun hw => Or.inr ?_, hmax⟩
    rcases hfit hw with rfl | h
    · rcases hcw with h | h
      · rw [hw] at h; cases h
      · rw [extW_nil]; exact h
    · exact h

theorem fill_eq_iff (f : Font) (wrap : Bool) (avail : Int) (l tl : List Item) :
    ∀ cur : Nat, fill f wrap avail cur (l ++ tl) = (l, tl) ↔ Taken f wrap avail cur l tl := by
  induction l with
  | nil =>
    intro cur
    rw [taken_nil]
    cases tl with
    | nil => exact ⟨fun _ => nofun, fun _ => rfl⟩
    | cons b t =>
      simp only [List.nil_append, fill, List.head?_cons, Option.some.injEq, forall_eq']
      split
      · exact ⟨fun e => (nomatch congrArg Prod.fst e), fun n => absurd ‹_› n⟩
      · exact ⟨fun _ => ‹_›, fun _ => rfl⟩
  | cons c l' ih =>
    intro cur
    rw [taken_cons, ← ih]
    simp only [List.cons_append, fill]
    split
    · constructor
      · intro e
        injection e with e1 e2
        injection e1 with _ e1
        exact ⟨‹_›, Prod.ext e1 e2⟩
      · rintro ⟨_, e⟩; rw [e]
    · exact ⟨fun e => (nomatch congrArg Prod.fst e), fun h => absurd h.1 ‹_›⟩

theorem fill_taken (f : Font) (wrap : Bool) (avail : Int) (cur : Nat) (l : List Item) :
    Taken f wrap avail cur (fill f wrap avail cur l).1 (fill f wrap avail cur l).2 := by
  rw [← fill_eq_iff, fill_append]

theorem greedyOK_nil_iff (f : Font) (wrap : Bool) (av : Nat → Int) (items : List Item) :
    GreedyOK f wrap av items [] ↔ items = [] :=
  ⟨fun h => h.conserve.symm, fun h => h ▸ ⟨rfl, nofun, nofun, nofun, nofun⟩⟩

theorem greedyOK_cons_iff (f : Font) (wrap : Bool) (av : Nat → Int) (items : List Item) (a : Item)
    (l : List Item) (ls : List (List Item)) :
    GreedyOK f wrap av items ((a :: l) :: ls) ↔
      items = a :: l ++ ls.flatten ∧ Taken f wrap (av 0) (a.w f) l ls.flatten ∧
      GreedyOK f wrap (fun i => av (i + 1)) ls.flatten ls := by
  constructor
  · intro h
    refine ⟨h.conserve.symm, ⟨h.forcedFirst _ List.mem_cons_self, fun hw => ?_, fun b hb => ?_⟩, ?_⟩
    · refine (h.fits 0 (a :: l) List.getElem?_cons_zero hw).symm.imp (fun h1 => ?_) id
      exact List.length_eq_zero_iff.1 (Nat.succ.inj h1)
    · cases ls with
      | nil => cases hb
      | cons n ls' =>
        cases n with
        | nil => exact absurd rfl (h.nonempty [] (List.mem_cons_of_mem _ List.mem_cons_self))
        | cons c n' =>
          exact h.maximal 0 (a :: l) (c :: n') b List.getElem?_cons_zero
            (List.getElem?_cons_succ.trans List.getElem?_cons_zero) hb
    · exact {
        conserve := rfl
        nonempty := fun l' hl' => h.nonempty l' (List.mem_cons_of_mem _ hl')
        forcedFirst := fun l' hl' => h.forcedFirst l' (List.mem_cons_of_mem _ hl')
        fits := fun i l' hi hw => h.fits (i + 1) l' (List.getElem?_cons_succ.trans hi) hw
        maximal := fun i l' n b hi hn hb =>
          h.maximal (i + 1) l' n b (List.getElem?_cons_succ.trans hi) (List.getElem?_cons_succ.trans hn) hb }
  · rintro ⟨rfl, ⟨h1, h2, h3⟩, r⟩
    exact {
      conserve := rfl
      nonempty := List.forall_mem_cons.2 ⟨nofun, r.nonempty⟩
      forcedFirst := List.forall_mem_cons.2 ⟨h1, r.forcedFirst⟩
      fits := fun i l' hi hw => by
        cases i with
        | zero => cases hi; exact (h2 hw).symm.imp id (fun h => congrArg (· + 1) (List.length_eq_zero_iff.2 h))
        | succ i => exact r.fits i l' hi hw
      maximal := fun i l' n b hi hn hb => by
        cases i with
        | zero =>
          cases hi
          cases ls with
          | nil => cases hn
          | cons n' ls' =>
            cases hn
            refine h3 b ?_
            cases n with
            | nil => cases hb
            | cons c n' => exact hb
        | succ i => exact r.maximal i l' n b hi hn hb }

theorem greedy_nil (f : Font) (wrap : Bool) (av : Nat → Int) : greedy f wrap av [] = [] := by
  rw [greedy]

theorem greedy_cons (f : Font) (wrap : Bool) (av : Nat → Int) (a : Item) (rest : List Item) :
    greedy f wrap av (a :: rest) =
      (a :: (fill f wrap (av 0) (a.w f) rest).1) ::
        greedy f wrap (fun i => av (i + 1)) (fill f wrap (av 0) (a.w f) rest).2 := by
  rw [greedy]

theorem takeCnt_sound (c : Nat) (acc : Nat) (rest : List Item) :
    ∀ l r, takeCnt c acc rest = some (l, r) → l ++ r = rest ∧ acc + (l.map Item.cnt).sum = c := by
  fun_induction takeCnt c acc rest <;> intro l r h
  case case1 | case3 => cases h; exact ⟨rfl, rfl⟩
  -- the unit `b` is taken and the recursive call (`ht`) gives the rest
  case case4 b _ _ _ _ _ ht ih =>
    cases h
    obtain ⟨h1, h2⟩ := ih _ _ ht
    exact ⟨congrArg (b :: ·) h1, by rw [List.map_cons, List.sum_cons]; omega⟩
  all_goals cases h

theorem le_maxR_left (a b : Rat) : a ≤ maxR a b := by
  unfold maxR; split
  · assumption
  · exact Rat.le_refl

theorem Geo.le_above (G : Geo) (l : List Item) : G.asc + G.halfLeading ≤ G.above l := by
  unfold Geo.above
  generalize G.asc + G.halfLeading = m
  induction atomHeights l generalizing m with
  | nil => exact Rat.le_refl
  | cons h hs ih => exact Rat.le_trans (le_maxR_left m h) (ih _)

theorem Geo.le_below (G : Geo) (l : List Item) : G.desc + G.halfLeading ≤ G.below l := by
  unfold Geo.below; split
  · exact Rat.le_refl
  · exact le_maxR_left _ _

theorem Geo.lh_eq (G : Geo) : G.lh = (G.asc + G.halfLeading) + (G.desc + G.halfLeading) := by
  simp only [Geo.halfLeading]; grind

theorem placeToks_congr {G G' : Geo} (h : G.f = G'.f) (yT bY : Rat) (ts : List Tok) :
    ∀ x, placeToks G yT bY x ts = placeToks G' yT bY x ts := by
  induction ts with
  | nil => exact fun _ => rfl
  | cons t ts ih => intro x; simp only [placeToks, h, ih]

theorem placeItems_congr {G G' : Geo} (h : G.f = G'.f) (e yT bY : Rat) (l : List Item) :
    ∀ first x, placeItems G e yT bY first x l = placeItems G' e yT bY first x l := by
  induction l with
  | nil => exact fun _ _ => rfl
  | cons a rest ih => intro first x; simp only [placeItems, placeToks_congr h, ih]

theorem alignOffset_of_le (al : Align) {avail w : Rat} (h : avail ≤ w) : alignOffset al avail w = 0 :=
  if_pos h

theorem alignOffset_of_lt (al : Align) {avail w : Rat} (h : w < avail) :
    alignOffset al avail w = match al with
      | .left => 0
      | .justify => 0
      | .center => (avail - w) / 2
      | .right => avail - w :=
  if_neg (Rat.not_le.2 h)

def Tok.keep : Tok → Bool
  | .space => false
  | .br => false
  | _ => true

/-- everything the chunker has emitted or holds, in order -/
def CS.out (st : CS) : List Tok :=
  (st.done.reverse.flatMap fun a => a.toks.reverse) ++
    (match st.cur with | some c => c.toks.reverse | none => []) ++ st.opens.reverse

theorem CS.out_leaf (f : Font) (st : CS) (t : Tok) (k : Leaf) :
    (st.leaf f t k).out = st.out ++ [t] := by
  unfold CS.leaf CS.out
  cases hc : st.cur with
  | none => simp
  | some c =>
    simp only
    split
    · simp
    · split <;> simp

theorem CS.out_step (f : Font) (st : CS) (t : Tok) :
    (st.step f t).out = st.out ++ (if t.keep then [t] else []) := by
  cases t with
  | word n => simp [CS.step, CS.out_leaf, Tok.keep]
  | atom w h => simp [CS.step, CS.out_leaf, Tok.keep]
  | space =>
    simp only [CS.step, Tok.keep]
    cases hc : st.cur with
    | none => simp
    | some c => simp [CS.out, hc]
  | opn e => simp [CS.step, CS.out, Tok.keep]
  | cls e =>
    simp only [CS.step, Tok.keep]
    cases hc : st.cur with
    | none => simp [CS.out, hc]
    | some c =>
      simp only
      split
      · rename_i h
        have ho : st.opens = [] := by simpa using h.1
        simp [CS.out, hc, ho]
      · simp [CS.out, hc]
  | br =>
    simp only [CS.step, Tok.keep]
    cases hc : st.cur with
    | none => simp [CS.out, hc]
    | some c => simp [CS.out, hc]

theorem CS.out_foldl_step (f : Font) (ts : List Tok) : ∀ st : CS,
    (ts.foldl (CS.step f) st).out = st.out ++ ts.filter Tok.keep := by
  induction ts with
  | nil => intro st; simp
  | cons t ts ih =>
    intro st
    simp only [List.foldl_cons, ih, CS.out_step, List.filter_cons]
    split <;> simp

theorem CS.flatMap_flush (st : CS) :
    (st.flush.reverse.flatMap fun a => a.toks.reverse) = st.out := by
  unfold CS.flush CS.out
  cases hc : st.cur with
  | some c => simp
  | none =>
    simp only
    split
    · rename_i h; simp [h]
    · simp

theorem chunk_toks (f : Font) (ts : List Tok) :
    (chunk f ts).flatMap (·.toks) = (ts.foldl (CS.step f) {}).out := by
  rw [← CS.flatMap_flush]
  simp [chunk, List.flatMap_def, List.map_reverse, Function.comp_def]

end WR.C11
