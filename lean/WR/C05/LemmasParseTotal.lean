/-
  C05 — the parser is total: with fuel for twice the input no function of the parser model reports
  `Err.fuel`, and every function that returns leaves less input than it was given.  Both are said at
  once by `GoodLt`, which is carried through the parser by one lemma per control construct
  (`GoodLt.call` for a call, `GoodLt.ite` for a test); a loop that may stop at once is `GoodLt` at one
  more than its input.
-/
import WR.C05.Parser
namespace WR.C05.Lemmas
open WR.C05 WR.C05.Parse

def GoodLe {α : Type} (x : Res α) (n : Nat) : Prop :=
  x ≠ .error .fuel ∧ ∀ v r, x = .ok (v, r) → r.length ≤ n

def GoodLt {α : Type} (x : Res α) (n : Nat) : Prop :=
  x ≠ .error .fuel ∧ ∀ v r, x = .ok (v, r) → r.length < n

theorem goodLt_err {α : Type} {n : Nat} (e : Err) (h : e ≠ .fuel) : GoodLt (.error e : Res α) n :=
  ⟨by simp [h], by intro v r h; simp at h⟩

theorem goodLt_malformed {α : Type} {n : Nat} : GoodLt (.error .malformed : Res α) n :=
  goodLt_err _ (by simp)

theorem goodLe_err {α : Type} {e : Err} (h : e ≠ .fuel) (n : Nat) : GoodLe (.error e : Res α) n :=
  ⟨by simp [h], by intro v r h; simp at h⟩

theorem goodLt_ok {α : Type} {v : α} {r : Str} {n : Nat} (h : r.length < n) : GoodLt (.ok (v, r) : Res α) n :=
  ⟨by simp, by intro v' r' h'; cases h'; exact h⟩

theorem GoodLt.mono {α : Type} {x : Res α} {n m : Nat} (h : GoodLt x n) (hnm : n ≤ m) : GoodLt x m :=
  ⟨h.1, fun v r hx => Nat.lt_of_lt_of_le (h.2 v r hx) hnm⟩

theorem goodLe_iff_lt_succ {α : Type} {x : Res α} {n : Nat} : GoodLe x n ↔ GoodLt x (n + 1) :=
  and_congr_right fun _ => forall_congr' fun _ => forall_congr' fun _ => imp_congr_right fun _ => Nat.lt_succ_iff.symm

/-- a call whose error is passed on: it is enough to look at what follows a result that leaves
    fewer than `n` characters (`P` is found from the goal) -/
@[elab_as_elim]
theorem GoodLt.call {α : Type} {P : Res α → Prop} {x : Res α} {n : Nat} (hx : GoodLt x n)
    (herr : ∀ e, e ≠ .fuel → P (.error e)) (hok : ∀ v r, r.length < n → P (.ok (v, r))) : P x := by
  rcases x with e | ⟨v, r⟩
  · exact herr e fun h => hx.1 (by rw [h])
  · exact hok v r (hx.2 v r rfl)

/-- `consumeParenthesis` and the like: no result is a syntax error, a result is shorter input -/
@[elab_as_elim]
theorem optCall {P : Option Str → Prop} {x : Option Str} {n : Nat} (hx : ∀ r, x = some r → r.length < n)
    (hnone : P none) (hsome : ∀ r, r.length < n → P (some r)) : P x := by
  rcases x with _ | r
  · exact hnone
  · exact hsome r (hx r rfl)

theorem GoodLt.ite {α : Type} {c : Prop} [Decidable c] {a b : Res α} {n : Nat} (ha : c → GoodLt a n)
    (hb : ¬ c → GoodLt b n) : GoodLt (if c then a else b) n := by
  split
  · exact ha ‹_›
  · exact hb ‹_›

/-- how much a loop may leave above strictly less than its input: nothing if it must still consume
    (`b`: nothing read so far, or the input starts a simple selector), one otherwise -/
def slack (b : Bool) : Nat := if b then 0 else 1

theorem slack_le (b : Bool) : slack b ≤ 1 := by cases b <;> decide

theorem spanHex_len (n : Nat) (s : Str) : (spanHex n s).2.length ≤ s.length := by
  induction n generalizing s with
  | zero => simp [spanHex]
  | succ n ih =>
    cases s with
    | nil => simp [spanHex]
    | cons c s =>
      simp only [spanHex]
      split
      · simp only [List.length_cons]; have := ih s; omega
      · simp

/-- `parseEscape` consumes at least two characters -/
theorem parseEscape_good (s : Str) : GoodLt (parseEscape s) (s.length - 1) := by
  unfold parseEscape
  split
  · rename_i c rest
    refine .ite (fun _ => goodLt_malformed) fun _ => .ite (fun hhex => goodLt_ok ?_) fun _ => goodLt_ok (by simp)
    have h1 : (spanHex 6 (c :: rest)).2.length ≤ rest.length := by
      simp only [spanHex, hhex, ↓reduceIte]; exact spanHex_len 5 rest
    generalize (spanHex 6 (c :: rest)).2 = t at h1 ⊢
    simp only [List.length_cons]
    split <;> (try simp only [List.length_cons] at h1) <;> omega
  · exact goodLt_malformed

theorem parseNameF_good : ∀ (fuel : Nat) (s acc : Str), s.length < fuel →
    GoodLt (parseNameF fuel s acc) (s.length + slack acc.isEmpty) := by
  intro fuel
  induction fuel with
  | zero => intro s acc h; omega
  | succ fuel ih =>
    intro s acc hlen
    have stop : GoodLt (if acc.isEmpty then (.error .malformed : Res Str) else .ok (acc.reverse, s))
        (s.length + slack acc.isEmpty) :=
      .ite (fun _ => goodLt_malformed) fun h => goodLt_ok (by simp [slack, h])
    unfold parseNameF
    cases s with
    | nil => exact stop
    | cons c t =>
      simp only [List.length_cons] at hlen
      refine .ite (fun _ => (ih t _ (by omega)).mono (by simp [slack])) fun _ => .ite (fun _ => ?_) fun _ => stop
      refine (parseEscape_good (c :: t)).call goodLt_err fun v r hr => ?_
      simp only [List.length_cons, Nat.add_sub_cancel] at hr
      exact (ih r _ (by omega)).mono (by simp [slack]; omega)

theorem parseName_good (s : Str) : GoodLt (parseName s) s.length :=
  parseNameF_good _ s [] (by omega)

theorem dropWhile_len (p : Char → Bool) (s : Str) : (s.dropWhile p).length ≤ s.length := by
  induction s with
  | nil => simp
  | cons c s ih => simp only [List.dropWhile_cons]; split <;> simp <;> omega

theorem parseIdentifier_good (s : Str) : GoodLt (parseIdentifier s) s.length := by
  have h2 := dropWhile_len (· == '-') s
  unfold parseIdentifier
  simp only
  split
  · exact goodLt_malformed
  · refine .ite (fun _ => goodLt_malformed) fun _ => ?_
    refine (parseName_good (s.dropWhile (· == '-'))).call goodLt_err fun n r' hr => ?_
    exact goodLt_ok (by omega)

theorem parseStringF_good (q : Char) : ∀ (fuel : Nat) (s acc : Str), s.length < fuel →
    GoodLt (parseStringF q fuel s acc) s.length := by
  intro fuel
  induction fuel with
  | zero => intro s acc h; omega
  | succ fuel ih =>
    intro s acc hlen
    have skip : ∀ (t acc' : Str), t.length < s.length → GoodLt (parseStringF q fuel t acc') s.length :=
      fun t acc' ht => (ih t acc' (by omega)).mono (by omega)
    unfold parseStringF
    split
    · exact goodLt_malformed
    · exact skip _ _ (by simp only [List.length_cons]; omega)
    · exact skip _ _ (by simp only [List.length_cons]; omega)
    · exact skip _ _ (by simp only [List.length_cons]; omega)
    · exact skip _ _ (by simp only [List.length_cons]; omega)
    · rename_i t _ _ _ _
      refine (parseEscape_good ('\\' :: t)).call goodLt_err fun v r hr => ?_
      exact skip _ _ (by simp only [List.length_cons] at hr ⊢; omega)
    · exact .ite (fun _ => goodLt_ok (by simp)) fun _ => .ite (fun _ => goodLt_malformed) fun _ =>
        skip _ _ (by simp)

theorem parseString_good (s : Str) : GoodLt (parseString s) s.length := by
  unfold parseString
  split
  · rename_i q c rest
    exact (parseStringF_good q _ (c :: rest) [] (by simp)).mono (by simp)
  · exact goodLt_malformed

theorem afterCommentEnd_len (s : Str) : (afterCommentEnd s).length ≤ s.length := by
  fun_induction afterCommentEnd s <;> simp <;> omega

theorem skipWsF_len : ∀ (fuel : Nat) (s : Str), (skipWsF fuel s).length ≤ s.length := by
  intro fuel
  induction fuel with
  | zero => intro s; simp [skipWsF]
  | succ fuel ih =>
    intro s
    unfold skipWsF
    split
    · rename_i t
      split
      · have := ih (afterCommentEnd t)
        have := afterCommentEnd_len t
        simp only [List.length_cons]; omega
      · simp
    · rename_i c t _
      split
      · have := ih t; simp only [List.length_cons]; omega
      · simp
    · simp

theorem skipWs_len (s : Str) : (skipWs s).length ≤ s.length := skipWsF_len _ s

theorem dropWhile_lt (p : Char → Bool) (s : Str) (h : ¬ (s.takeWhile p).isEmpty = true) :
    (s.dropWhile p).length < s.length := by
  cases s with
  | nil => simp at h
  | cons c t =>
    simp only [List.takeWhile_cons, List.dropWhile_cons] at h ⊢
    split
    · have := dropWhile_len p t; simp only [List.length_cons]; omega
    · rename_i hc; simp [hc] at h

theorem parseInteger_good (s : Str) : GoodLt (parseInteger s) s.length := by
  unfold parseInteger
  exact .ite (fun _ => goodLt_malformed) fun h => .ite (fun _ => goodLt_malformed) fun _ =>
    goodLt_ok (dropWhile_lt isDigit s h)

theorem nthReadN_good (a : Int) (s : Str) : GoodLt (nthReadN a s) (s.length + 1) := by
  have hs := skipWs_len s
  -- after the sign: white space and the digits of `b`
  have signed : ∀ {c : Char} {t : Str} (k : Nat → Int), skipWs s = c :: t →
      GoodLt (match parseInteger (skipWs t) with
        | .ok (b, r) => (.ok ((a, k b), r) : Res (Int × Int))
        | .error e => .error e) (s.length + 1) := by
    intro c t k heq
    have := skipWs_len t
    simp only [heq, List.length_cons] at hs
    refine (parseInteger_good (skipWs t)).call goodLt_err fun b r hr => ?_
    exact goodLt_ok (by omega)
  unfold nthReadN
  split
  · exact goodLt_malformed
  · exact signed _ ‹_›
  · exact signed _ ‹_›
  · exact goodLt_ok (by omega)

theorem nthSignedA_good (neg : Bool) (s : Str) : GoodLt (nthSignedA neg s) s.length := by
  unfold nthSignedA
  cases s with
  | nil => exact goodLt_malformed
  | cons c t =>
    refine .ite (fun _ => ?_) fun _ =>
      .ite (fun _ => (nthReadN_good _ t).mono (by simp)) fun _ => goodLt_malformed
    refine (parseInteger_good (c :: t)).call goodLt_err fun n r hr => ?_
    simp only
    split
    · exact goodLt_malformed
    · exact (nthReadN_good _ _).mono (by simp only [List.length_cons] at hr ⊢; omega)
    · exact (nthReadN_good _ _).mono (by simp only [List.length_cons] at hr ⊢; omega)
    · exact goodLt_ok hr

theorem parseNth_good (s : Str) : GoodLt (parseNth s) s.length := by
  unfold parseNth
  cases s with
  | nil => exact goodLt_malformed
  | cons c t =>
    refine .ite (fun _ => (nthSignedA_good true t).mono (by simp)) fun _ =>
      .ite (fun _ => (nthSignedA_good false t).mono (by simp)) fun _ =>
      .ite (fun _ => nthSignedA_good false (c :: t)) fun _ =>
      .ite (fun _ => (nthReadN_good 1 t).mono (by simp)) fun _ =>
      .ite (fun _ => ?_) fun _ => goodLt_malformed
    refine (parseName_good (c :: t)).call goodLt_err fun id r hr => ?_
    exact .ite (fun _ => goodLt_ok hr) fun _ => .ite (fun _ => goodLt_ok hr) fun _ => goodLt_malformed

theorem consumeParen_len (s : Str) {r : Str} (h : consumeParen s = some r) : r.length < s.length := by
  unfold consumeParen at h
  split at h
  · rename_i t
    simp only [Option.some.injEq] at h
    rw [← h]
    have := skipWs_len t
    simp only [List.length_cons]; omega
  · simp at h

theorem consumeClosing_len (s : Str) {r : Str} (h : consumeClosing s = some r) : r.length < s.length := by
  unfold consumeClosing at h
  have hs := skipWs_len s
  split at h
  · rename_i t heq
    simp only [Option.some.injEq] at h
    rw [heq] at hs
    rw [← h]
    simp only [List.length_cons] at hs; omega
  · simp at h

theorem attrOpOf_len {s op r : Str} (h : attrOpOf s = some (op, r)) : r.length < s.length := by
  unfold attrOpOf at h
  split at h
  · split at h
    · simp only [Option.some.injEq, Prod.mk.injEq] at h; rw [← h.2]; simp
    · split at h
      · simp at h
      · split at h
        · simp only [Option.some.injEq, Prod.mk.injEq] at h; rw [← h.2]; simp; omega
        · simp at h
  · simp at h

theorem parseAttrValue_good (s : Str) : GoodLt (parseAttrValue s) s.length := by
  unfold parseAttrValue
  split
  · exact .ite (fun _ => parseString_good _) fun _ => parseIdentifier_good _
  · exact goodLt_malformed

theorem parseAttrEnd_good (key val op s : Str) : GoodLt (parseAttrEnd key val op s) s.length := by
  have hs := skipWs_len s
  unfold parseAttrEnd
  split
  · exact goodLt_malformed
  · rename_i f s5 heq
    rw [heq] at hs
    simp only
    split
    · rename_i t heq2
      have h2 := skipWs_len (if (f == 'i' || f == 'I') = true then s5 else f :: s5)
      rw [heq2] at h2
      split
      · refine goodLt_ok ?_
        simp only [List.length_cons] at hs h2
        split at h2 <;> (try simp only [List.length_cons] at h2) <;> omega
      · exact goodLt_malformed
    · exact goodLt_malformed

theorem parseAttrTail_good (key s : Str) : GoodLt (parseAttrTail key s) s.length := by
  unfold parseAttrTail
  split
  · exact goodLt_malformed
  · exact goodLt_ok (by simp)
  · rename_i c0 t0 _
    refine .ite (fun _ => goodLt_malformed) fun _ => ?_
    split
    · exact goodLt_malformed
    · rename_i op s2 hop
      have h1 := attrOpOf_len hop
      have h2 := skipWs_len s2
      split
      · exact goodLt_malformed
      · rename_i c s3 heq
        rw [heq] at h2
        refine .ite (fun _ => goodLt_err _ (by simp)) fun _ => ?_
        refine (parseAttrValue_good (c :: s3)).call goodLt_err fun val s4 h4 => ?_
        exact (parseAttrEnd_good key val op s4).mono (by omega)

theorem parseAttr_good (s : Str) : GoodLt (parseAttr s) s.length := by
  unfold parseAttr
  split
  · rename_i s0
    have h0 := skipWs_len s0
    refine (parseIdentifier_good (skipWs s0)).call goodLt_err fun key s1 h1 => ?_
    have := skipWs_len s1
    exact (parseAttrTail_good _ _).mono (by simp only [List.length_cons]; omega)
  · exact goodLt_malformed

/-- the input starts a simple selector other than a type selector: the loop of
    `parseSimpleSelectorSequence` makes at least one step -/
def startsSimple : Str → Bool
  | c :: _ => c == '#' || c == '.' || c == '[' || c == ':'
  | [] => false

/-- the induction hypothesis: all seven mutually recursive functions are good at fuel `f` — `G`, `GL`
    `parseGroupF` and its loop, `S`, `SL` `parseSelectorF` and its loop, `Q`, `QL` `parseSeqF` and its
    loop, `P` `parsePseudoF`.  Each calls the next in this order with its own fuel minus one on input
    that is no longer, hence the constants 5, 4, 4, 3, 3, 2, 1; a loop calls itself only after its
    callee has consumed a character (two units of the bound); `P` re-enters `G` after `:name(`, at
    least two characters, which pays for the way back up from 1 to 5. -/
structure AllGood (f : Nat) : Prop where
  G : ∀ s, 2 * s.length + 5 ≤ f → GoodLt (parseGroupF f s) s.length
  GL : ∀ s acc, 2 * s.length + 4 ≤ f → GoodLt (groupLoopF f s acc) (s.length + 1)
  S : ∀ s, 2 * s.length + 4 ≤ f → GoodLt (parseSelectorF f s) s.length
  SL : ∀ s res, 2 * s.length + 3 ≤ f → GoodLt (selectorLoopF f s res) (s.length + 1)
  Q : ∀ s, 2 * s.length + 3 ≤ f → GoodLt (parseSeqF f s) s.length
  QL : ∀ s acc pe, 2 * s.length + 2 ≤ f → GoodLt (seqLoopF f s acc pe) (s.length + slack (startsSimple s))
  P : ∀ s, 2 * s.length + 1 ≤ f → GoodLt (parsePseudoF f s) s.length

theorem AllGood.QL' {f : Nat} (ih : AllGood f) (s : Str) (acc : List Sel) (pe : Str) (h : 2 * s.length + 2 ≤ f) :
    GoodLt (seqLoopF f s acc pe) (s.length + 1) :=
  (ih.QL s acc pe h).mono (by have := slack_le (startsSimple s); omega)

theorem stepG {f : Nat} (ih : AllGood f) (s : Str) (h : 2 * s.length + 5 ≤ f + 1) :
    GoodLt (parseGroupF (f + 1) s) s.length := by
  unfold parseGroupF
  refine (ih.S s (by omega)).call goodLt_err fun first r hr => ?_
  exact (ih.GL r [first] (by omega)).mono (by omega)

theorem stepGL {f : Nat} (ih : AllGood f) (s : Str) (acc : List Sel) (h : 2 * s.length + 4 ≤ f + 1) :
    GoodLt (groupLoopF (f + 1) s acc) (s.length + 1) := by
  unfold groupLoopF
  split
  · rename_i t
    simp only [List.length_cons] at h ⊢
    refine (ih.S t (by omega)).call goodLt_err fun c r hr => ?_
    exact (ih.GL r (c :: acc) (by omega)).mono (by omega)
  · exact goodLt_ok (by omega)

theorem stepS {f : Nat} (ih : AllGood f) (s : Str) (h : 2 * s.length + 4 ≤ f + 1) :
    GoodLt (parseSelectorF (f + 1) s) s.length := by
  have hw := skipWs_len s
  unfold parseSelectorF
  refine (ih.Q (skipWs s) (by omega)).call goodLt_err fun first r hr => ?_
  exact (ih.SL r first (by omega)).mono (by omega)

theorem stepSL {f : Nat} (ih : AllGood f) (s : Str) (res : Sel) (h : 2 * s.length + 3 ≤ f + 1) :
    GoodLt (selectorLoopF (f + 1) s res) (s.length + 1) := by
  have hw := skipWs_len s
  -- a compound selector read from input shorter than `s`, then the loop again
  have next : ∀ (u : Str) (k : Sel → Sel), u.length < s.length →
      GoodLt (match parseSeqF f u with
        | .error e => .error e
        | .ok (d, r') => selectorLoopF f r' (k d)) (s.length + 1) := by
    intro u k hu
    refine (ih.Q u (by omega)).call goodLt_err fun d r' hr => ?_
    exact (ih.SL r' _ (by omega)).mono (by omega)
  unfold selectorLoopF
  simp only
  generalize skipWs s = r0 at hw ⊢
  cases r0 with
  | nil => exact goodLt_ok (by simp)
  | cons c t =>
    simp only [List.length_cons] at hw
    have hw2 := skipWs_len t
    refine .ite (fun _ => next _ _ (by omega)) fun _ => .ite (fun _ => goodLt_ok (by simp only [List.length_cons]; omega))
      fun _ => .ite (fun _ => goodLt_ok (by simp only [List.length_cons]; omega)) fun hsk => next _ _ ?_
    have : (c :: t).length ≠ s.length := by simpa using hsk
    simp only [List.length_cons] at this ⊢
    omega

theorem stepQ {f : Nat} (ih : AllGood f) (s : Str) (h : 2 * s.length + 3 ≤ f + 1) :
    GoodLt (parseSeqF (f + 1) s) s.length := by
  unfold parseSeqF
  cases s with
  | nil => exact goodLt_malformed
  | cons c t =>
    simp only [List.length_cons] at h ⊢
    refine .ite (fun _ => ?_) fun _ => .ite (fun hc => ?_) fun _ => ?_
    · split
      · rename_i x t'
        simp only [List.length_cons] at h ⊢
        exact (ih.QL' (x :: t') [] [] (by simp only [List.length_cons]; omega)).mono
          (by simp only [List.length_cons]; omega)
      · exact ih.QL' t [] [] (by omega)
    · exact (ih.QL (c :: t) [] [] (by simp only [List.length_cons]; omega)).mono
        (by rw [show startsSimple (c :: t) = true from hc]; exact Nat.le_refl _)
    · refine (parseIdentifier_good (c :: t)).call goodLt_err fun tag r hr => ?_
      simp only [List.length_cons] at hr
      exact (ih.QL' r _ [] (by omega)).mono (by omega)

theorem stepQL {f : Nat} (ih : AllGood f) (s : Str) (acc : List Sel) (pe : Str)
    (h : 2 * s.length + 2 ≤ f + 1) :
    GoodLt (seqLoopF (f + 1) s acc pe) (s.length + slack (startsSimple s)) := by
  -- every step that continues does so on a strictly shorter input
  have cont : ∀ (r : Str) (acc' : List Sel) (pe' : Str), r.length < s.length →
      GoodLt (seqLoopF f r acc' pe') s.length :=
    fun r acc' pe' hr => (ih.QL' r acc' pe' (by omega)).mono (by omega)
  have addSel : ∀ (ns : Sel) (r : Str), r.length < s.length →
      GoodLt (if (!pe.isEmpty) = true then (.error .malformed : Res Sel) else seqLoopF f r (ns :: acc) pe) s.length :=
    fun ns r hr => .ite (fun _ => goodLt_malformed) fun _ => cont r _ _ hr
  unfold seqLoopF
  simp only
  split
  · rename_i t
    refine GoodLt.mono ?_ (Nat.le_add_right _ _)
    refine (parseName_good t).call goodLt_err fun n r hr => ?_
    exact addSel _ r (by simp only [List.length_cons]; omega)
  · rename_i t
    refine GoodLt.mono ?_ (Nat.le_add_right _ _)
    refine (parseIdentifier_good t).call goodLt_err fun n r hr => ?_
    exact addSel _ r (by simp only [List.length_cons]; omega)
  · rename_i t
    refine GoodLt.mono ?_ (Nat.le_add_right _ _)
    refine (parseAttr_good ('[' :: t)).call goodLt_err fun a r hr => ?_
    exact addSel _ r hr
  · rename_i t
    refine GoodLt.mono ?_ (Nat.le_add_right _ _)
    refine (ih.P (':' :: t) (by omega)).call goodLt_err fun p r hr => ?_
    cases p with
    | sel ns => exact addSel _ r hr
    | elem name => exact .ite (fun _ => goodLt_malformed) fun _ => cont r _ _ hr
  · rename_i h1 h2 h3 h4
    have hns : startsSimple s = false := by
      cases s with
      | nil => rfl
      | cons c t =>
        simp only [startsSimple, Bool.or_eq_false_iff, beq_eq_false_iff_ne, ne_eq]
        exact ⟨⟨⟨fun hc => h1 t (hc ▸ rfl), fun hc => h2 t (hc ▸ rfl)⟩, fun hc => h3 t (hc ▸ rfl)⟩,
          fun hc => h4 t (hc ▸ rfl)⟩
    rw [hns]
    split <;> exact goodLt_ok (by simp [slack])

theorem stepP {f : Nat} (ih : AllGood f) (s : Str) (h : 2 * s.length + 1 ≤ f + 1) :
    GoodLt (parsePseudoF (f + 1) s) s.length := by
  unfold parsePseudoF
  split
  · rename_i c t
    simp only
    refine (parseIdentifier_good (if (c == ':') = true then t else c :: t)).call goodLt_err fun name r hr => ?_
    have hl : r.length + 2 ≤ (':' :: c :: t).length := by
      simp only [List.length_cons]
      split at hr <;> (try simp only [List.length_cons] at hr) <;> omega
    simp only [List.length_cons] at hl h ⊢
    have closing : ∀ (X : Sel) (r2 : Str), r2.length < t.length + 1 + 1 →
        GoodLt (match consumeClosing r2 with
          | none => .error .malformed
          | some r3 => .ok (Pseudo.sel X, r3)) (t.length + 1 + 1) := by
      intro X r2 h2
      exact optCall (fun _ => consumeClosing_len r2) goodLt_malformed fun r3 h3 => goodLt_ok (by omega)
    refine .ite (fun _ => goodLt_malformed) fun _ => ?_
    split
    · refine optCall (fun _ => consumeParen_len r) goodLt_malformed fun r1 h1 => ?_
      dsimp only
      exact (ih.G r1 (by omega)).call goodLt_err fun g r2 h2 => closing _ r2 (by omega)
    · refine .ite (fun _ => goodLt_err _ (by simp)) fun _ => ?_
      split
      · refine optCall (fun _ => consumeParen_len r) goodLt_malformed fun r1 h1 => ?_
        dsimp only
        exact (parseNth_good r1).call goodLt_err fun ⟨a, b⟩ r2 h2 => closing _ r2 (by omega)
      · split
        · exact goodLt_ok (by omega)
        · exact .ite (fun _ => goodLt_ok (by omega)) fun _ => .ite (fun _ => goodLt_ok (by omega)) fun _ =>
            goodLt_malformed
  · exact goodLt_malformed

theorem allGood : ∀ f, AllGood f := by
  intro f
  induction f with
  | zero =>
    exact ⟨fun s h => by omega, fun s _ h => by omega, fun s h => by omega, fun s _ h => by omega,
      fun s h => by omega, fun s _ _ h => by omega, fun s h => by omega⟩
  | succ f ih =>
    exact ⟨stepG ih, stepGL ih, stepS ih, stepSL ih, stepQ ih, stepQL ih, stepP ih⟩

end WR.C05.Lemmas
