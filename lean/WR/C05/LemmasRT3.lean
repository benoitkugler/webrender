/-
  C05 — `String()` then `ParseGroup`, from compound selectors to selector lists.  One statement per
  level of the grammar (`StepStmt`, `SimplesStmt`, `CompoundStmt`, `ComplexStmt`, `GroupLoopStmt`), each
  saying that the parser function of that level, given fuel for twice the text, reads the printed
  form back and stops at the rest; `master` proves them together by recursion on the selector.
-/
import WR.C05.LemmasRT2
namespace WR.C05.Lemmas
open WR.C05 WR.C05.Parse WR.C05.Print

/-- `, s` for every further member of a selector list -/
def sepPrint : List Sel → Str
  | [] => []
  | s :: ss => ',' :: ' ' :: (printSel s ++ sepPrint ss)

theorem printGroup_cons (s : Sel) (ss : List Sel) : printGroup (s :: ss) = printSel s ++ sepPrint ss := by
  induction ss generalizing s with
  | nil => simp [printGroup, sepPrint]
  | cons s2 ss ih => simp [printGroup, sepPrint, ih s2]

/-- the first character of a printed selector -/
def selHead (h : Char) : Bool := identHead h || h == '*' || (h == '#' || h == '.' || h == '[' || h == ':')

theorem selHead_props {h : Char} (hh : selHead h = true) :
    isAsciiWs h = false ∧ h ≠ '/' ∧ (h == '+' || h == '>' || h == '~') = false ∧ (h == ',' || h == ')') = false :=
  sep_props hh (by decide)

theorem plainName_head {n : Str} (h : plainName n = true) : ∃ c t, n = c :: t ∧ identHead c = true := by
  cases n with
  | nil => simp [plainName] at h
  | cons c t =>
    simp only [plainName, Bool.and_eq_true] at h
    exact ⟨c, t, rfl, by simp [identHead, nameStart_of_letter h.1]⟩

theorem printTag_head (n : Str) (hok : lowerOk n = true) : ∃ h t, printTag n = h :: t ∧ identHead h = true := by
  unfold printTag
  split
  · rename_i hraw
    have := rawAtoms_keywords n (by simpa using hraw)
    simp only [Bool.and_eq_true] at this
    exact plainName_head this.1
  · simp only [lowerOk, Bool.and_eq_true] at hok
    exact escape_head n hok.1

/-- what the simple selectors other than a type selector have in common: no level of `wf` tells
    them apart, and each is printed with `#`, `.`, `[` or `:` first -/
structure IsSimple (s : Sel) : Prop where
  wf_eq : ∀ l, wf l s = wf 0 s
  head : wf 0 s = true → ∃ h t, printSel s = h :: t ∧ (h == '#' || h == '.' || h == '[' || h == ':') = true

theorem sel_kinds (s : Sel) :
    IsSimple s ∨ (∃ n, s = .tag n) ∨ (∃ pe sels, s = .compound pe sels) ∨ ∃ a c d, s = .combined a c d := by
  have plain : ∀ s ∈ plainSels, ∃ h t, printSel s = h :: t ∧ (h == '#' || h == '.' || h == '[' || h == ':') = true :=
    fun s hs => (plainSels_print s hs).elim fun nm h => ⟨':', nm, h, by decide⟩
  cases s with
  | tag n => exact Or.inr (Or.inl ⟨n, rfl⟩)
  | compound pe sels => exact Or.inr (Or.inr (Or.inl ⟨pe, sels, rfl⟩))
  | combined a c d => exact Or.inr (Or.inr (Or.inr ⟨a, c, d, rfl⟩))
  | cls n => exact Or.inl ⟨fun _ => rfl, fun _ => ⟨'.', _, rfl, by decide⟩⟩
  | id n => exact Or.inl ⟨fun _ => rfl, fun _ => ⟨'#', _, rfl, by decide⟩⟩
  | attr k v o i =>
    exact Or.inl ⟨fun _ => rfl,
      fun _ => ⟨'[', _, by simp only [printSel, List.cons_append]; rfl, by decide⟩⟩
  | nth a b l t =>
    refine Or.inl ⟨fun _ => rfl, fun _ => ?_⟩
    by_cases h01 : (a == 0 && b == 1) = true
    · simp only [Bool.and_eq_true, beq_iff_eq] at h01
      obtain ⟨rfl, rfl⟩ := h01
      exact plain _ (by cases l <;> cases t <;> simp [plainSels])
    · exact ⟨':', _, by simp only [printSel, printNth, h01, Bool.false_eq_true, ↓reduceIte]; rfl, by decide⟩
  | only t => exact Or.inl ⟨fun _ => rfl, fun _ => plain _ (by cases t <;> simp [plainSels])⟩
  | empty => exact Or.inl ⟨fun _ => rfl, fun _ => plain _ (by simp [plainSels])⟩
  | root => exact Or.inl ⟨fun _ => rfl, fun _ => plain _ (by simp [plainSels])⟩
  | rel k args => exact Or.inl ⟨fun _ => rfl, fun _ => ⟨':', _, rfl, by decide⟩⟩
  | never v =>
    refine Or.inl ⟨fun _ => rfl, fun hs => ?_⟩
    simp only [wf] at hs
    split at hs
    · exact ⟨':', _, rfl, by decide⟩
    · cases hs

def simpleKind : Sel → Bool
  | .tag _ | .compound _ _ | .combined _ _ _ => false
  | _ => true

theorem isSimple {s : Sel} (h : simpleKind s = true) : IsSimple s := by
  rcases sel_kinds s with h' | ⟨n, rfl⟩ | ⟨pe, sels, rfl⟩ | ⟨a, c, d, rfl⟩
  · exact h'
  all_goals cases h

theorem simple_head (s : Sel) (hs : wf 0 s = true) :
    ∃ h t, printSel s = h :: t ∧ (h == '#' || h == '.' || h == '[' || h == ':') = true := by
  rcases sel_kinds s with h | ⟨n, rfl⟩ | ⟨pe, sels, rfl⟩ | ⟨a, c, d, rfl⟩
  · exact h.head hs
  · simp [wf] at hs
  · cases sels <;> simp [wf] at hs
  · simp [wf] at hs

theorem wf1_cases (h : Sel) (hw : wf 1 h = true) : (∃ n, h = .tag n ∧ lowerOk n = true) ∨ wf 0 h = true := by
  rcases sel_kinds h with hs | ⟨n, rfl⟩ | ⟨pe, sels, rfl⟩ | ⟨a, c, d, rfl⟩
  · exact Or.inr (hs.wf_eq 1 ▸ hw)
  · exact Or.inl ⟨n, rfl, by simpa [wf] using hw⟩
  · cases sels <;> simp [wf] at hw
  · simp [wf] at hw

/-! The statements below say, level by level, that a parser function given the printed form followed by
    `tail` returns the selector and `tail`.  Fuel: a function needs twice the length of the text it is
    given (a loop turn and its callee both count down, so a printed character pays two units) plus a
    constant that leaves room for the calls below it and its own last turn: +2 for the loop of simple
    selectors, +3 for `parseSeqF` and the loop of `parseSelector`, +6 for `parseSelectorF` and the
    group loop, +7 for `parseGroupF`.  The constants are sufficient, not tight. -/

/-- the printed simple selector is one turn of the loop of `parseSimpleSelectorSequence`.  Only
    `:is( … )` and its kin use the fuel bound (they re-enter the grammar); the other `step_*` lemmas
    hold for any fuel -/
def StepStmt (s : Sel) : Prop :=
  ∀ (f : Nat) (tail : Str) (acc : List Sel), TailOf simpleFollow tail →
    2 * (printSel s ++ tail).length + 2 ≤ f + 1 →
    seqLoopF (f + 1) (printSel s ++ tail) acc [] = seqLoopF f tail (s :: acc) []

/-- the printed simple selectors are so many turns of that loop, which is left with fuel for the rest -/
def SimplesStmt (ss : List Sel) : Prop :=
  ∀ (f : Nat) (tail : Str) (acc : List Sel), TailOf simpleFollow tail →
    2 * (printConcat ss ++ tail).length + 2 ≤ f →
    ∃ f', 2 * tail.length + 2 ≤ f' ∧
      seqLoopF f (printConcat ss ++ tail) acc [] = seqLoopF f' tail (ss.reverse ++ acc) []

/-- `parseSimpleSelectorSequence` reads the printed compound selector and stops at `tail` -/
def CompoundStmt (s : Sel) : Prop :=
  ∀ (f : Nat) (tail : Str), TailOf compFollow tail → 2 * (printSel s ++ tail).length + 3 ≤ f →
    parseSeqF f (printSel s ++ tail) = .ok (s, tail)

theorem concat_tail (ss : List Sel) (hss : wfs 0 ss = true) (rest : Str) (hr : TailOf simpleFollow rest) :
    TailOf simpleFollow (printConcat ss ++ rest) := by
  cases ss with
  | nil => simpa [printConcat] using hr
  | cons s2 ss2 =>
    simp only [wfs, Bool.and_eq_true] at hss
    obtain ⟨h2, t2, hh2, hsim⟩ := simple_head s2 hss.1
    simp only [printConcat, hh2, List.cons_append, TailOf, simpleFollow]
    simp only [Bool.or_eq_true, beq_iff_eq] at hsim ⊢
    rcases hsim with ((h | h) | h) | h <;> simp [h]

theorem simples_nil : SimplesStmt [] := by
  intro f tail acc _ hb
  exact ⟨f, by simpa [printConcat] using hb, by simp [printConcat]⟩

theorem simples_cons (s : Sel) (ss : List Sel) (hs : wf 0 s = true) (hss : wfs 0 ss = true)
    (h1 : StepStmt s) (h2 : SimplesStmt ss) : SimplesStmt (s :: ss) := by
  intro f tail acc ht hb
  obtain ⟨h, t, hh, _⟩ := simple_head s hs
  have hpos : 0 < (printSel s).length := by rw [hh]; simp
  have htail' := concat_tail ss hss tail ht
  simp only [printConcat, List.append_assoc, List.length_append] at hb ⊢
  cases f with
  | zero => omega
  | succ f0 =>
    rw [h1 f0 (printConcat ss ++ tail) acc htail' (by simp only [List.length_append]; omega)]
    obtain ⟨f', hf', heq⟩ := h2 f0 tail (s :: acc) ht (by simp only [List.length_append]; omega)
    exact ⟨f', hf', by rw [heq]; simp⟩

theorem parseSeqF_ident (f : Nat) (h : Char) (t : Str) (hp : HeadProps h) :
    parseSeqF (f + 1) (h :: t) =
      match parseIdentifier (h :: t) with
      | .error e => .error e
      | .ok (tag, r) => seqLoopF f r [.tag (lower tag)] [] := by
  rw [parseSeqF.eq_def]
  have e1 : (h == '*') = false := by simp [hp.star]
  have e2 := hp.simple
  simp only [e1, Bool.false_eq_true, ↓reduceIte, e2]
  rfl

theorem parseSeqF_simple (f : Nat) (h : Char) (t : Str)
    (hs : (h == '#' || h == '.' || h == '[' || h == ':') = true) :
    parseSeqF (f + 1) (h :: t) = seqLoopF f (h :: t) [] [] := by
  rw [parseSeqF.eq_def]
  have e1 : (h == '*') = false := by
    simp only [Bool.or_eq_true, beq_iff_eq] at hs
    rcases hs with ((hs | hs) | hs) | hs <;> subst hs <;> decide
  simp only [e1, Bool.false_eq_true, ↓reduceIte, hs]

theorem parseSeqF_star (f : Nat) (tail : Str) (ht : TailOf compFollow tail) :
    parseSeqF (f + 1) ('*' :: tail) = seqLoopF f tail [] [] := by
  rw [parseSeqF.eq_def]
  cases tail with
  | nil => rfl
  | cons c t =>
    simp only [TailOf, compFollow, Bool.or_eq_true, beq_iff_eq] at ht
    rcases ht with (h | h) | h <;> subst h <;> rfl

theorem parseIdentifier_printTag (n tail : Str) (hok : lowerOk n = true) (hstop : StopsName tail) :
    parseIdentifier (printTag n ++ tail) = .ok (n, tail) := by
  unfold printTag
  split
  · rename_i hraw
    have := rawAtoms_keywords n (by simpa using hraw)
    simp only [Bool.and_eq_true] at this
    exact parseIdentifier_plain n tail this.1 hstop
  · simp only [lowerOk, Bool.and_eq_true] at hok
    exact parseIdentifier_escape n tail hok.1 hstop

/-- `::pe`, or nothing -/
def peStr (pe : Str) : Str := if pe.isEmpty then [] else ':' :: ':' :: pe

theorem peStr_tail (pe tail : Str) (ht : TailOf compFollow tail) : TailOf simpleFollow (peStr pe ++ tail) := by
  unfold peStr
  split
  · simpa using comp_simple ht
  · exact (by decide : simpleFollow ':' = true)

theorem seq_after_simples (ss : List Sel) (hss : SimplesStmt ss) (pe : Str)
    (hpe : pe.isEmpty = true ∨ pseudoElements.contains pe = true)
    (f : Nat) (tail : Str) (acc0 : List Sel) (ht : TailOf compFollow tail)
    (hb : 2 * (printConcat ss ++ (peStr pe ++ tail)).length + 2 ≤ f) :
    seqLoopF f (printConcat ss ++ (peStr pe ++ tail)) acc0 [] = .ok (finishSel (ss.reverse ++ acc0) pe, tail) := by
  have htail' := peStr_tail pe tail ht
  obtain ⟨f', hf', heq⟩ := hss f (peStr pe ++ tail) acc0 htail' hb
  rw [heq]
  unfold peStr at hf' ⊢
  by_cases hempty : pe.isEmpty = true
  · simp only [hempty, ↓reduceIte, List.nil_append] at hf' ⊢
    have hpe0 : pe = [] := by simpa using hempty
    subst hpe0
    match f', hf' with
    | f0 + 1, _ => rw [seqLoopF_finish f0 tail _ [] ht]
  · simp only [hempty, Bool.false_eq_true, ↓reduceIte, List.cons_append, List.length_cons] at hf' ⊢
    have hpe' : pseudoElements.contains pe = true := by
      rcases hpe with h | h
      · exact absurd h hempty
      · exact h
    match f', hf' with
    | f0 + 3, _ =>
      rw [seqLoopF_pseudo, parsePseudoF_elem (f0 + 1) pe tail hpe' (tail_stopsName (comp_simple ht))]
      simp only
      rw [seqLoopF_finish (f0 + 1) tail _ pe ht]

theorem finishSel_compound (acc : List Sel) (pe : Str) (h : ¬ (pe = [] ∧ acc.length = 1)) :
    finishSel acc pe = .compound pe acc.reverse := by
  unfold finishSel
  cases acc with
  | nil => rfl
  | cons a as =>
    cases as with
    | nil =>
      cases pe with
      | nil => exact absurd ⟨rfl, rfl⟩ h
      | cons _ _ => rfl
    | cons _ _ => rfl

theorem printSel_compound (pe : Str) (sels : List Sel) (hne : ¬ (sels = [] ∧ pe = [])) :
    printSel (.compound pe sels) = printConcat sels ++ peStr pe := by
  simp only [printSel, peStr]
  split
  · rename_i h
    simp only [Bool.and_eq_true, List.isEmpty_iff] at h
    exact absurd h hne
  · rfl

theorem parseSeqF_tag (n : Str) (hn : lowerOk n = true) (ss : List Sel) (hss : SimplesStmt ss)
    (hwf : wfs 0 ss = true) (pe : Str) (hpe : pe.isEmpty = true ∨ pseudoElements.contains pe = true)
    (f : Nat) (tail : Str) (ht : TailOf compFollow tail)
    (hb : 2 * (printTag n ++ (printConcat ss ++ (peStr pe ++ tail))).length + 3 ≤ f) :
    parseSeqF f (printTag n ++ (printConcat ss ++ (peStr pe ++ tail))) =
      .ok (finishSel (ss.reverse ++ [.tag n]) pe, tail) := by
  obtain ⟨c, r, hh, hid⟩ := printTag_head n hn
  have hlow : lower n = n := by
    simp only [lowerOk, Bool.and_eq_true, beq_iff_eq] at hn; exact hn.2
  have hp := parseIdentifier_printTag n (printConcat ss ++ (peStr pe ++ tail)) hn
    (tail_stopsName (concat_tail ss hwf _ (peStr_tail pe tail ht)))
  rw [hh] at hb hp ⊢
  simp only [List.cons_append, List.length_cons, List.length_append] at hb hp ⊢
  match f, hb with
  | f0 + 1, hb =>
    rw [parseSeqF_ident f0 c _ (identHead_props hid), hp]
    simp only [hlow]
    rw [seq_after_simples ss hss pe hpe f0 tail [.tag n] ht (by simp only [List.length_append]; omega)]

theorem parseSeqF_simples (ss : List Sel) (hss : SimplesStmt ss) (hwf : wfs 0 ss = true) (pe : Str)
    (hpe : pe.isEmpty = true ∨ pseudoElements.contains pe = true) (hne : ¬ (ss = [] ∧ pe = []))
    (f : Nat) (tail : Str) (ht : TailOf compFollow tail)
    (hb : 2 * (printConcat ss ++ (peStr pe ++ tail)).length + 3 ≤ f) :
    parseSeqF f (printConcat ss ++ (peStr pe ++ tail)) = .ok (finishSel ss.reverse pe, tail) := by
  have hhead : ∃ c r, printConcat ss ++ (peStr pe ++ tail) = c :: r ∧
      (c == '#' || c == '.' || c == '[' || c == ':') = true := by
    cases ss with
    | cons h t =>
      simp only [wfs, Bool.and_eq_true] at hwf
      obtain ⟨c, r, hh, hc⟩ := simple_head h hwf.1
      exact ⟨c, _, by rw [printConcat, hh]; rfl, hc⟩
    | nil =>
      cases pe with
      | nil => exact absurd ⟨rfl, rfl⟩ hne
      | cons p ps => exact ⟨':', _, rfl, by decide⟩
  obtain ⟨c, r, hh, hc⟩ := hhead
  match f, hb with
  | f0 + 1, hb =>
    rw [hh, parseSeqF_simple f0 c r hc, ← hh, seq_after_simples ss hss pe hpe f0 tail [] ht (by omega)]
    simp

theorem compound_tag (n : Str) (hok : lowerOk n = true) : CompoundStmt (.tag n) := by
  intro f tail ht hb
  simpa [printSel, printConcat, peStr, finishSel] using
    parseSeqF_tag n hok [] simples_nil rfl [] (Or.inl rfl) f tail ht (by simpa [printSel, printConcat, peStr] using hb)

theorem compound_of_step (s : Sel) (hs : wf 0 s = true) (hstep : StepStmt s) : CompoundStmt s := by
  intro f tail ht hb
  simpa [printConcat, peStr, finishSel] using
    parseSeqF_simples [s] (simples_cons s [] hs rfl hstep simples_nil) (by simp [wfs, hs]) [] (Or.inl rfl)
      (by simp) f tail ht (by simpa [printConcat, peStr] using hb)

theorem compound_compound (pe : Str) (sels : List Sel) (hwf : wf 2 (.compound pe sels) = true)
    (hhead : ∀ h ∈ sels.head?, wf 0 h = true → StepStmt h)
    (htl : wfs 0 sels.tail = true → SimplesStmt sels.tail) : CompoundStmt (.compound pe sels) := by
  intro f tail ht hb
  by_cases hstar : sels = [] ∧ pe = []
  · obtain ⟨rfl, rfl⟩ := hstar
    simp only [printSel, List.isEmpty_nil, Bool.and_self, ↓reduceIte, List.cons_append, List.nil_append,
      List.length_cons] at hb ⊢
    match f, hb with
    | f0 + 2, _ => rw [parseSeqF_star (f0 + 1) tail ht, seqLoopF_finish f0 tail [] [] ht]; rfl
  rw [printSel_compound pe sels hstar, List.append_assoc] at hb ⊢
  cases sels with
  | nil =>
    simp only [wf, Bool.and_eq_true, Bool.or_eq_true, Bool.not_eq_true', decide_eq_true_eq] at hwf
    rw [parseSeqF_simples [] simples_nil rfl pe hwf.1.1.2 hstar f tail ht hb]
    rfl
  | cons h t =>
    simp only [wf, Bool.and_eq_true, Bool.or_eq_true, Bool.not_eq_true', decide_eq_true_eq,
      List.length_cons, Bool.and_eq_false_imp] at hwf
    obtain ⟨⟨⟨_, hpe⟩, hshape⟩, hw1, hwt⟩ := hwf
    have hfin : ∀ (acc : List Sel), acc.length = t.length + 1 → finishSel acc pe = .compound pe acc.reverse := by
      intro acc hl
      apply finishSel_compound
      rintro ⟨hp, hl1⟩
      have := hshape (by simp [hp])
      simp only [beq_eq_false_iff_ne, ne_eq] at this
      omega
    rcases wf1_cases h hw1 with ⟨n, rfl, hn⟩ | hw0
    · simp only [printConcat, List.append_assoc, printSel] at hb ⊢
      rw [parseSeqF_tag n hn t (htl hwt) hwt pe hpe f tail ht hb, hfin _ (by simp)]
      simp
    · rw [parseSeqF_simples (h :: t) (simples_cons h t hw0 hwt (hhead h rfl hw0) (htl hwt)) (by simp [wfs, hw0, hwt])
        pe hpe hstar f tail ht hb, hfin _ (by simp)]
      simp

/-- the printed selector starts like a selector, and reading its first compound selector and
    looping on brings `parseSelector` to the rest with the whole selector in hand -/
def ComplexStmt (s : Sel) : Prop :=
  (∃ h t, printSel s = h :: t ∧ selHead h = true) ∧
  ∀ (f : Nat) (X : Str), TailOf compFollow X → 2 * (printSel s ++ X).length + 3 ≤ f →
    ∃ f', 2 * X.length + 3 ≤ f' ∧
      (match parseSeqF f (printSel s ++ X) with
        | .error e => .error e
        | .ok (first, r) => selectorLoopF f r first) = selectorLoopF f' X s

/-- the characters that follow a printed complex selector -/
def selFollow (c : Char) : Bool := c == ',' || c == ')'

theorem sel_comp {tail : Str} (h : TailOf selFollow tail) : TailOf compFollow tail := by
  cases tail with
  | nil => trivial
  | cons c t =>
    simp only [TailOf, selFollow, compFollow, Bool.or_eq_true, beq_iff_eq] at h ⊢
    rcases h with h | h <;> simp [h]

theorem combStr_facts (c : Comb) (hc : c ≠ .desc) :
    ∃ ch, combStr c = [ch] ∧ (ch == '+' || ch == '>' || ch == '~') = true ∧ isAsciiWs ch = false ∧ ch ≠ '/' ∧
      (if ch == '+' then Comb.adj else if ch == '>' then .child else .sib) = c := by
  cases c
  · exact absurd rfl hc
  all_goals exact ⟨_, rfl, by decide, by decide, by decide, rfl⟩

theorem loop_step (a d : Sel) (c : Comb) (g : Nat) (X : Str) (hcd : CompoundStmt d)
    (hhead : ∃ h t, printSel d = h :: t ∧ selHead h = true) (hX : TailOf compFollow X)
    (hb : 2 * (printSel d ++ X).length + 3 ≤ g) :
    selectorLoopF (g + 1) (' ' :: (combStr c ++ (' ' :: (printSel d ++ X)))) a =
      selectorLoopF g X (.combined a c d) := by
  obtain ⟨h, t, hh, hsh⟩ := hhead
  obtain ⟨p1, p2, p3, p4⟩ := selHead_props hsh
  have hparse := hcd g X hX hb
  rw [hh] at hparse
  simp only [List.cons_append] at hparse
  have hsk2 : skipWs (' ' :: (printSel d ++ X)) = h :: (t ++ X) := by
    rw [skipWs_space, hh, List.cons_append, skipWs_stop h _ p1 p2]
  rw [selectorLoopF.eq_def]
  simp only
  by_cases hc : c = .desc
  · -- only white space: the next compound selector is read where the white space ends
    subst hc
    have hsk : skipWs (' ' :: ([' '] ++ ' ' :: (printSel d ++ X))) = h :: (t ++ X) := by
      simp only [List.cons_append, List.nil_append]
      rw [skipWs_space, skipWs_space, hsk2]
    simp only [combStr, hsk, p3, Bool.false_eq_true, ↓reduceIte, p4, hparse]
    have : ((h :: (t ++ X)).length != (' ' :: ([' '] ++ ' ' :: (printSel d ++ X))).length) = true := by
      rw [hh]; simp
    simp only [this, Bool.not_true, Bool.false_eq_true, ↓reduceIte]
  · obtain ⟨ch, hcs, hcomb, hws, hsl, hval⟩ := combStr_facts c hc
    have hsk : skipWs (' ' :: ([ch] ++ ' ' :: (printSel d ++ X))) = ch :: ' ' :: (printSel d ++ X) := by
      simp only [List.cons_append, List.nil_append]
      rw [skipWs_space, skipWs_stop ch _ hws hsl]
    simp only [hcs, hsk, hcomb, ↓reduceIte, hsk2, hparse, hval]

theorem complex_combined (a d : Sel) (c : Comb) (ha : ComplexStmt a) (hcd : CompoundStmt d)
    (hhead : ∃ h t, printSel d = h :: t ∧ selHead h = true) : ComplexStmt (.combined a c d) := by
  have hp : ∀ X, printSel (.combined a c d) ++ X =
      printSel a ++ (' ' :: (combStr c ++ (' ' :: (printSel d ++ X)))) := by
    intro X; simp [printSel]
  refine ⟨?_, fun f X hX hb => ?_⟩
  · obtain ⟨h, t, hh, hsh⟩ := ha.1
    exact ⟨h, _, by rw [← List.append_nil (printSel _), hp, hh]; rfl, hsh⟩
  · have hlen : (combStr c).length = 1 := by cases c <;> rfl
    rw [hp] at hb ⊢
    simp only [List.length_append, List.length_cons, hlen] at hb
    obtain ⟨f', hf', heq⟩ := ha.2 f (' ' :: (combStr c ++ (' ' :: (printSel d ++ X))))
      (by decide : compFollow ' ' = true)
      (by simp only [List.length_append, List.length_cons, hlen]; omega)
    simp only [List.length_append, List.length_cons, hlen] at hf'
    match f', hf', heq with
    | g + 1, hf', heq =>
      exact ⟨g, by omega, by rw [heq, loop_step a d c g X hcd hhead hX (by simp only [List.length_append]; omega)]⟩

theorem selectorLoopF_end (g : Nat) (tail : Str) (s : Sel) (ht : TailOf selFollow tail) :
    selectorLoopF (g + 1) tail s = .ok (s, tail) := by
  rw [selectorLoopF.eq_def]
  simp only
  cases tail with
  | nil => rfl
  | cons c t =>
    simp only [TailOf, selFollow, Bool.or_eq_true, beq_iff_eq] at ht
    rcases ht with h | h <;> subst h
    · rw [skipWs_stop ',' t (by decide) (by decide)]; rfl
    · rw [skipWs_stop ')' t (by decide) (by decide)]; rfl

theorem first_head (h : Sel) (hw : wf 1 h = true) : ∃ c r, printSel h = c :: r ∧ selHead c = true := by
  rcases wf1_cases h hw with ⟨n, rfl, hn⟩ | hw0
  · obtain ⟨c, r, hh, hid⟩ := printTag_head n hn
    exact ⟨c, r, hh, by simp [selHead, hid]⟩
  · obtain ⟨c, r, hh, hs⟩ := simple_head h hw0
    exact ⟨c, r, hh, by simp only [selHead, hs, Bool.or_true]⟩

theorem compound_head (d : Sel) (hw : wf 2 d = true) : ∃ h t, printSel d = h :: t ∧ selHead h = true := by
  rcases sel_kinds d with hs | ⟨n, rfl⟩ | ⟨pe, sels, rfl⟩ | ⟨a, c, d', rfl⟩
  · exact first_head d (by rw [hs.wf_eq] at hw ⊢; exact hw)
  · exact first_head _ (by simpa [wf] using hw)
  · cases sels with
    | nil =>
      cases pe with
      | nil => exact ⟨'*', [], rfl, by decide⟩
      | cons p ps => exact ⟨':', ':' :: p :: ps, rfl, by decide⟩
    | cons h t =>
      simp only [wf, Bool.and_eq_true] at hw
      obtain ⟨c, r, hh, hc⟩ := first_head h hw.2.1
      exact ⟨c, r ++ (printConcat t ++ peStr pe), by
        rw [printSel_compound pe (h :: t) (by simp), printConcat, hh]; simp, hc⟩
  · simp [wf] at hw

theorem parseSelectorF_print (s : Sel) (hc : ComplexStmt s) (sp : Bool) (f : Nat) (tail : Str)
    (ht : TailOf selFollow tail) (hb : 2 * (printSel s ++ tail).length + 6 ≤ f) :
    parseSelectorF f ((if sp then [' '] else []) ++ (printSel s ++ tail)) = .ok (s, tail) := by
  obtain ⟨h, t, hh, hsh⟩ := hc.1
  obtain ⟨p1, p2, _, _⟩ := selHead_props hsh
  have hskip : skipWs ((if sp then [' '] else []) ++ (printSel s ++ tail)) = printSel s ++ tail := by
    cases sp
    · simp only [Bool.false_eq_true, ↓reduceIte, List.nil_append]
      rw [hh, List.cons_append, skipWs_stop h _ p1 p2]
    · simp only [↓reduceIte, List.cons_append, List.nil_append]
      rw [skipWs_space, hh, List.cons_append, skipWs_stop h _ p1 p2]
  match f, hb with
  | g + 1, hb =>
    obtain ⟨f', hf', heq⟩ := hc.2 g tail (sel_comp ht) (by omega)
    rw [parseSelectorF.eq_def]
    simp only [hskip]
    match f', hf', heq with
    | f'' + 1, _, heq => exact heq.trans (selectorLoopF_end f'' tail s ht)

/-- the character that follows a printed selector list inside `:is( … )` -/
def closeFollow (c : Char) : Bool := c == ')'

/-- the loop of `parseSelectorGroup` reads `, s` for each further member and stops at `tail` -/
def GroupLoopStmt (ss : List Sel) : Prop :=
  ∀ (f : Nat) (tail : Str) (acc : List Sel), TailOf closeFollow tail →
    2 * (sepPrint ss ++ tail).length + 6 ≤ f →
    groupLoopF f (sepPrint ss ++ tail) acc = .ok (acc.reverse ++ ss, tail)

theorem group_nil : GroupLoopStmt [] := by
  intro f tail acc ht hb
  match f, hb with
  | g + 1, _ =>
    rw [groupLoopF.eq_def]
    cases tail with
    | nil => simp [sepPrint]
    | cons c t =>
      simp only [TailOf, closeFollow, beq_iff_eq] at ht
      subst ht
      simp [sepPrint]

theorem sepPrint_tail (ss : List Sel) (tail : Str) (ht : TailOf closeFollow tail) :
    TailOf selFollow (sepPrint ss ++ tail) := by
  cases ss with
  | nil =>
    cases tail with
    | nil => trivial
    | cons c t =>
      simp only [TailOf, closeFollow, beq_iff_eq] at ht
      subst ht
      simp [sepPrint, TailOf, selFollow]
  | cons s ss => simp [sepPrint, TailOf, selFollow]

/-- `parseSelector` on a printed selector, then the loop of `parseSelectorGroup` on the members after it -/
theorem selector_then_groupLoop (s : Sel) (ss : List Sel) (hc : ComplexStmt s) (hg : GroupLoopStmt ss)
    (sp : Bool) (g : Nat) (tail : Str) (acc : List Sel) (ht : TailOf closeFollow tail)
    (hb : 2 * (printSel s ++ (sepPrint ss ++ tail)).length + 6 ≤ g) :
    (match parseSelectorF g ((if sp then [' '] else []) ++ (printSel s ++ (sepPrint ss ++ tail))) with
      | .error e => .error e
      | .ok (c, r) => groupLoopF g r (c :: acc)) =
      (.ok (acc.reverse ++ s :: ss, tail) : Res (List Sel)) := by
  rw [parseSelectorF_print s hc sp g _ (sepPrint_tail ss tail ht) hb]
  simp only
  rw [hg g tail (s :: acc) ht (by simp only [List.length_append] at hb ⊢; omega)]
  simp

theorem group_cons (s : Sel) (ss : List Sel) (hc : ComplexStmt s)
    (hg : GroupLoopStmt ss) : GroupLoopStmt (s :: ss) := by
  intro f tail acc ht hb
  simp only [sepPrint, List.cons_append, List.length_cons, List.append_assoc] at hb ⊢
  match f, hb with
  | g + 1, hb =>
    rw [groupLoopF.eq_def]
    exact selector_then_groupLoop s ss hc hg true g tail acc ht (by omega)

theorem parseGroupF_print_cons (s : Sel) (ss : List Sel) (hc : ComplexStmt s)
    (hg : GroupLoopStmt ss) (f : Nat) (tail : Str) (ht : TailOf closeFollow tail)
    (hb : 2 * (printGroup (s :: ss) ++ tail).length + 7 ≤ f) :
    parseGroupF f (printGroup (s :: ss) ++ tail) = .ok (s :: ss, tail) := by
  rw [printGroup_cons, List.append_assoc] at hb ⊢
  match f, hb with
  | g + 1, hb =>
    rw [parseGroupF.eq_def]
    exact selector_then_groupLoop s ss hc hg false g tail [] ht (by omega)

theorem step_rel (k : RelKind) (s : Sel) (ss : List Sel) (hc : ComplexStmt s)
    (hg : GroupLoopStmt ss) : StepStmt (.rel k (s :: ss)) := by
  intro f tail acc ht hb
  have hf := relStr_keywords k (by cases k <;> simp)
  simp only [Bool.and_eq_true, beq_iff_eq, decide_eq_true_eq] at hf
  obtain ⟨⟨⟨hn, hl⟩, hrel⟩, hlen⟩ := hf
  obtain ⟨h, t, hh, hsh⟩ := hc.1
  obtain ⟨p1, p2, _, _⟩ := selHead_props hsh
  have hprint : printSel (.rel k (s :: ss)) ++ tail =
      ':' :: (relStr k ++ ('(' :: (printGroup (s :: ss) ++ (')' :: tail)))) := by
    simp [printSel, List.append_assoc]
  rw [hprint] at hb ⊢
  simp only [List.length_cons, List.length_append] at hb
  refine step_pseudo _ (relStr k) _ tail hn hl (stopsName_paren _) f acc fun g hg => ?_
  subst hg
  have hsk : skipWs (printGroup (s :: ss) ++ (')' :: tail)) = printGroup (s :: ss) ++ (')' :: tail) := by
    rw [printGroup_cons, hh]
    simp only [List.cons_append]
    rw [skipWs_stop h _ p1 p2]
  simp only [pseudoBody, hrel, consumeParen]
  rw [hsk, parseGroupF_print_cons s ss hc hg g (')' :: tail) (by simp [TailOf, closeFollow])
    (by simp only [List.length_append, List.length_cons]; omega)]
  simp only [consumeClosing_paren]

/-- what is proved of one selector by recursion: each level's statement at the level of `wf` that
    admits the selector there -/
def Master (s : Sel) : Prop :=
  (wf 0 s = true → StepStmt s) ∧ (wf 2 s = true → CompoundStmt s) ∧ (wf 3 s = true → ComplexStmt s)

def MasterList (ss : List Sel) : Prop :=
  (wfs 0 ss = true → SimplesStmt ss) ∧ (wfs 3 ss = true → GroupLoopStmt ss)

theorem master_of_compound (s : Sel) (hstep : wf 0 s = true → StepStmt s)
    (h32 : wf 3 s = true → wf 2 s = true) (hc : wf 2 s = true → CompoundStmt s) : Master s :=
  ⟨hstep, hc, fun hw => ⟨compound_head s (h32 hw), fun f X hX hb =>
    ⟨f, by simp only [List.length_append] at hb; omega, by rw [hc (h32 hw) f X hX hb]⟩⟩⟩

theorem master_simple (s : Sel) (hs : IsSimple s) (hstep : wf 0 s = true → StepStmt s) : Master s :=
  master_of_compound s hstep (fun hw => (hs.wf_eq 2).trans ((hs.wf_eq 3).symm.trans hw)) fun hw =>
    have hw0 := (hs.wf_eq 2).symm.trans hw
    compound_of_step s hw0 (hstep hw0)

theorem master_compound (pe : Str) (sels : List Sel) (hhead : ∀ h ∈ sels.head?, wf 0 h = true → StepStmt h)
    (htl : wfs 0 sels.tail = true → SimplesStmt sels.tail) : Master (.compound pe sels) :=
  master_of_compound _ (fun h => by cases sels <;> simp [wf] at h)
    (fun hw => by cases sels <;> simpa [wf] using hw) fun hw => compound_compound pe sels hw hhead htl

mutual
  theorem master : ∀ (s : Sel), Master s
    | .tag n => master_of_compound _ (fun h => by simp [wf] at h) (fun hw => by simpa [wf] using hw)
        fun hw => compound_tag n (by simpa [wf] using hw)
    | .cls n => master_simple _ (isSimple rfl)
        (fun hw f tail acc ht _ => step_cls n (by simpa [wf] using hw) f tail acc ht)
    | .id n => master_simple _ (isSimple rfl)
        (fun hw f tail acc ht _ => step_id n (by simpa [wf] using hw) f tail acc ht)
    | .attr key val op ic => master_simple _ (isSimple rfl)
        (fun hw f tail acc _ _ => by
          simp only [wf, Bool.and_eq_true] at hw
          exact step_attr key val op ic hw.1 hw.2 f tail acc)
    | .nth a b l t => master_simple _ (isSimple rfl)
        (fun hw f tail acc ht _ => step_nth a b l t hw f tail acc ht)
    | .only t => master_simple _ (isSimple rfl)
        (fun _ f tail acc ht _ => step_plain _ (by cases t <;> simp [plainSels]) f tail acc ht)
    | .empty => master_simple _ (isSimple rfl)
        (fun _ f tail acc ht _ => step_plain _ (by simp [plainSels]) f tail acc ht)
    | .root => master_simple _ (isSimple rfl)
        (fun _ f tail acc ht _ => step_plain _ (by simp [plainSels]) f tail acc ht)
    | .never v => master_simple _ (isSimple rfl)
        (fun hw f tail acc ht _ => by
          simp only [wf] at hw
          split at hw
          · exact step_never _ hw f tail acc ht
          · cases hw)
    | .rel k [] => master_simple _ (isSimple rfl) (fun hw => by simp [wf] at hw)
    | .rel k (a :: as) => master_simple _ (isSimple rfl)
        (fun hw => by
          simp only [wf, wfs, List.isEmpty_cons, Bool.not_false, Bool.true_and, Bool.and_eq_true] at hw
          exact step_rel k a as ((master a).2.2 hw.1) ((masterList as).2 hw.2))
    | .compound pe [] => master_compound pe [] (fun _ hh => by cases hh) (fun _ => simples_nil)
    | .compound pe (h :: t) => master_compound pe (h :: t)
        (fun h' hh => by cases hh; exact (master h).1) (masterList t).1
    | .combined a c d => by
      refine ⟨by intro h; simp [wf] at h, by intro h; simp [wf] at h, ?_⟩
      intro hw
      simp only [wf, Bool.and_eq_true] at hw
      exact complex_combined a d c ((master a).2.2 hw.1.2) ((master d).2.1 hw.2) (compound_head d hw.2)
  theorem masterList : ∀ (ss : List Sel), MasterList ss
    | [] => ⟨fun _ => simples_nil, fun _ => group_nil⟩
    | s :: ss => by
      refine ⟨?_, ?_⟩
      · intro hw
        simp only [wfs, Bool.and_eq_true] at hw
        exact simples_cons s ss hw.1 hw.2 ((master s).1 hw.1) ((masterList ss).1 hw.2)
      · intro hw
        simp only [wfs, Bool.and_eq_true] at hw
        exact group_cons s ss ((master s).2.2 hw.1) ((masterList ss).2 hw.2)
end

theorem parseGroupF_print (g : List Sel) (h : groupPrintable g = true) (f : Nat) (tail : Str)
    (ht : TailOf closeFollow tail) (hb : 2 * (printGroup g ++ tail).length + 7 ≤ f) :
    parseGroupF f (printGroup g ++ tail) = .ok (g, tail) := by
  simp only [groupPrintable, Bool.and_eq_true, Bool.not_eq_true', List.isEmpty_eq_false_iff] at h
  cases g with
  | nil => exact absurd rfl h.1
  | cons s ss =>
    have hw := h.2
    simp only [wfs, Bool.and_eq_true] at hw
    exact parseGroupF_print_cons s ss ((master s).2.2 hw.1) ((masterList ss).2 hw.2) f tail ht hb

end WR.C05.Lemmas
