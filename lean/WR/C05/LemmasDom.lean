/-
  C05 — helper lemmas: the nodes of one tree (`allLocs root`) are closed under the navigation the
  selectors perform, so `DomOk` holds of a whole document as soon as each node is `LocalOk`.
-/
import WR.C05.Domain
namespace WR.C05.Lemmas
open WR.C05 WR.C05.Spec

theorem childrenAux_sub_allList (k : Kind) (d : Str) (a : List Attr) (fs : List Frame) :
    ∀ (cs left : List Node) (c : Loc), c ∈ Loc.childrenAux k d a fs left cs → c ∈ allList k d a fs left cs := by
  intro cs
  induction cs with
  | nil => intro left c h; simp [Loc.childrenAux] at h
  | cons x xs ih =>
    intro left c h
    simp only [Loc.childrenAux, List.mem_cons] at h
    simp only [allList, List.cons_append, List.mem_cons, List.mem_append]
    rcases h with h | h
    · exact Or.inl h
    · exact Or.inr (Or.inr (ih _ c h))

theorem children_sub_allNode (l c : Loc) (h : c ∈ l.children) : c ∈ allNode l.node l.path := by
  obtain ⟨⟨k, d, a, cs⟩, fs⟩ := l
  exact childrenAux_sub_allList k d a fs cs [] c h

mutual
  theorem allNode_trans : ∀ (n : Node) (fs : List Frame) (l x : Loc),
      l ∈ allNode n fs → x ∈ allNode l.node l.path → x ∈ allNode n fs
    | .mk k d a cs, fs, l, x, hl, hx => by
      simp only [allNode] at hl ⊢
      exact allList_trans cs k d a fs [] l x hl hx
  theorem allList_trans : ∀ (cs : List Node) (k : Kind) (d : Str) (a : List Attr) (fs : List Frame)
      (left : List Node) (l x : Loc),
      l ∈ allList k d a fs left cs → x ∈ allNode l.node l.path → x ∈ allList k d a fs left cs
    | [], _, _, _, _, _, _, _, hl, _ => by simp [allList] at hl
    | c :: cs, k, d, a, fs, left, l, x, hl, hx => by
      simp only [allList, List.cons_append, List.mem_cons, List.mem_append] at hl ⊢
      rcases hl with hl | hl | hl
      · subst hl; exact Or.inr (Or.inl hx)
      · exact Or.inr (Or.inl (allNode_trans c _ l x hl hx))
      · exact Or.inr (Or.inr (allList_trans cs k d a fs (c :: left) l x hl hx))
end

mutual
  theorem descNode_sub : ∀ (n : Node) (fs : List Frame) (x : Loc), x ∈ descNode n fs → x ∈ allNode n fs
    | .mk k d a cs, fs, x, hx => by
      simp only [descNode] at hx
      simp only [allNode]
      exact descList_sub cs k d a fs [] x hx
  theorem descList_sub : ∀ (cs : List Node) (k : Kind) (d : Str) (a : List Attr) (fs : List Frame)
      (left : List Node) (x : Loc), x ∈ descList k d a fs left cs → x ∈ allList k d a fs left cs
    | [], _, _, _, _, _, _, hx => by simp [descList] at hx
    | c :: cs, k, d, a, fs, left, x, hx => by
      simp only [descList, List.cons_append, List.mem_cons, List.mem_append] at hx
      simp only [allList, List.cons_append, List.mem_cons, List.mem_append]
      rcases hx with hx | hx | hx
      · exact Or.inl hx
      · by_cases hk : c.kind = .elem
        · simp only [hk, ↓reduceIte] at hx
          exact Or.inr (Or.inl (descNode_sub c _ x hx))
        · simp [hk] at hx
      · exact Or.inr (Or.inr (descList_sub cs k d a fs (c :: left) x hx))
end

mutual
  theorem allNode_parent : ∀ (n : Node) (fs : List Frame) (l : Loc), l ∈ allNode n fs →
      ∃ p, l.parent? = some p ∧ (p = ⟨n, fs⟩ ∨ p ∈ allNode n fs)
    | .mk k d a cs, fs, l, hl => by
      simp only [allNode] at hl ⊢
      have := allList_parent cs k d a fs [] l hl
      simpa using this
  theorem allList_parent : ∀ (cs : List Node) (k : Kind) (d : Str) (a : List Attr) (fs : List Frame)
      (left : List Node) (l : Loc), l ∈ allList k d a fs left cs →
      ∃ p, l.parent? = some p ∧ (p = ⟨.mk k d a (left.reverse ++ cs), fs⟩ ∨ p ∈ allList k d a fs left cs)
    | [], _, _, _, _, _, _, hl => by simp [allList] at hl
    | c :: cs, k, d, a, fs, left, l, hl => by
      simp only [allList, List.cons_append, List.mem_cons, List.mem_append] at hl ⊢
      rcases hl with hl | hl | hl
      · subst hl
        exact ⟨_, rfl, Or.inl (by simp [Loc.plug])⟩
      · obtain ⟨p, hp, h⟩ := allNode_parent c _ l hl
        refine ⟨p, hp, Or.inr ?_⟩
        rcases h with h | h
        · exact Or.inl h
        · exact Or.inr (Or.inl h)
      · obtain ⟨p, hp, h⟩ := allList_parent cs k d a fs (c :: left) l hl
        refine ⟨p, hp, ?_⟩
        rcases h with h | h
        · left; rw [h]; simp
        · exact Or.inr (Or.inr (Or.inr h))
end

theorem mem_allLocs_of_allNode {root : Node} {l x : Loc} (hl : l ∈ allLocs root)
    (hx : x ∈ allNode l.node l.path) : x ∈ allLocs root := by
  simp only [allLocs, List.mem_cons] at hl ⊢
  rcases hl with rfl | hl
  · exact Or.inr hx
  · exact Or.inr (allNode_trans root [] l x hl hx)

theorem parent_mem_allLocs {root : Node} {n : Node} {f : Frame} {fs : List Frame}
    (hl : (⟨n, f :: fs⟩ : Loc) ∈ allLocs root) : (⟨Loc.plug f n, fs⟩ : Loc) ∈ allLocs root := by
  simp only [allLocs, List.mem_cons] at hl ⊢
  rcases hl with hl | hl
  · simp at hl
  · obtain ⟨p, hp, h⟩ := allNode_parent root [] _ hl
    simp only [Loc.parent?, Option.some.injEq] at hp
    subst hp
    exact h

theorem ancestors_mem_allLocs (root : Node) : ∀ (fs : List Frame) (n : Node),
    (⟨n, fs⟩ : Loc) ∈ allLocs root → ∀ p ∈ Loc.ancestorsAux n fs, p ∈ allLocs root := by
  intro fs
  induction fs with
  | nil => intro n _ p hp; simp [Loc.ancestorsAux] at hp
  | cons f fs ih =>
    intro n hl p hp
    have hpar := parent_mem_allLocs hl
    simp only [Loc.ancestorsAux, List.mem_cons] at hp
    rcases hp with rfl | hp
    · exact hpar
    · exact ih _ hpar p hp

theorem mem_childrenAux_split (k : Kind) (d : Str) (a : List Attr) (fs : List Frame) (c : Node) (ys : List Node) :
    ∀ (xs acc : List Node),
      (⟨c, ⟨k, d, a, xs.reverse ++ acc, ys⟩ :: fs⟩ : Loc) ∈ Loc.childrenAux k d a fs acc (xs ++ c :: ys) := by
  intro xs
  induction xs with
  | nil => intro acc; simp [Loc.childrenAux]
  | cons x xs ih =>
    intro acc
    simp only [List.cons_append, Loc.childrenAux, List.mem_cons]
    right
    have := ih (x :: acc)
    simpa using this

theorem prevAux_shape (f : Frame) (fs : List Frame) :
    ∀ (left : List Node) (cur : Node) (right : List Node) (s : Loc), s ∈ Loc.prevAux f fs left cur right →
      ∃ pre p post, left = pre ++ p :: post ∧
        s = ⟨p, ⟨f.kind, f.data, f.attrs, post, pre.reverse ++ cur :: right⟩ :: fs⟩ := by
  intro left
  induction left with
  | nil => intro cur right s h; simp [Loc.prevAux] at h
  | cons p ps ih =>
    intro cur right s h
    simp only [Loc.prevAux, List.mem_cons] at h
    rcases h with h | h
    · exact ⟨[], p, ps, rfl, by simpa using h⟩
    · obtain ⟨pre, q, post, h1, h2⟩ := ih p (cur :: right) s h
      exact ⟨p :: pre, q, post, by simp [h1], by simpa using h2⟩

theorem prevSibs_sub_children (n : Node) (f : Frame) (fs : List Frame) (s : Loc)
    (h : s ∈ Loc.prevSibs ⟨n, f :: fs⟩) : s ∈ Loc.children ⟨Loc.plug f n, fs⟩ := by
  obtain ⟨pre, p, post, h1, h2⟩ := prevAux_shape f fs f.left n f.right s h
  subst h2
  have := mem_childrenAux_split f.kind f.data f.attrs fs p (pre.reverse ++ n :: f.right) post.reverse []
  simp only [List.reverse_reverse, List.append_nil] at this
  simp only [Loc.children, Loc.plug, Node.kind, Node.data, Node.attrs, Node.children, h1]
  simpa using this

/-- the `other` clause of `LocalOk` holds when no previous sibling is a Doctype / Document node -/
theorem other_ok_of_none {l : Loc} (h : ∀ s ∈ l.prevSibs, s.kind ≠ .other ∧ s.kind ≠ .doc) :
    ∀ pre s post, l.prevSibs = pre ++ s :: post → (s.kind = .other ∨ s.kind = .doc) →
      ∀ e ∈ post, e.kind ≠ .elem := by
  intro pre s post hp hs
  have := h s (by rw [hp]; simp)
  rcases hs with hs | hs
  · exact absurd hs this.1
  · exact absurd hs this.2

theorem domOk_allLocs (root : Node) (h : ∀ l ∈ allLocs root, LocalOk l) :
    DomOk (fun l => l ∈ allLocs root) where
  anc := fun l hl p hp => ancestors_mem_allLocs root l.path l.node hl p hp
  prev := by
    intro l hl s hs
    obtain ⟨n, path⟩ := l
    cases path with
    | nil => simp [Loc.prevSibs] at hs
    | cons f fs =>
      have hc := prevSibs_sub_children n f fs s hs
      exact mem_allLocs_of_allNode (parent_mem_allLocs hl) (children_sub_allNode _ s hc)
  kids := fun l hl c hc => mem_allLocs_of_allNode hl (children_sub_allNode l c hc)
  desc := fun l hl x hx => mem_allLocs_of_allNode hl (descNode_sub l.node l.path x hx)
  ok := h

end WR.C05.Lemmas
