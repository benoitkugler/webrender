/-
  C05 — the model's `selMatch` against the definition `Matches`, clause by clause: strings and attribute
  operators, the sibling and child lists of the zipper, the counting loops of pseudo_classes.go and
  an+b, one `_iff` per simple selector, and what the induction over combinators and `:has()` needs
  (`any_iff_of_mem`, `nearestPrevElem_iff`, `matches_elem`).
-/
import WR.C05.Domain
namespace WR.C05.Lemmas
open WR.C05 WR.C05.Spec

theorem isDocWs_eq (c : Char) : isDocWs c = isAsciiWs c := by
  unfold isDocWs isAsciiWs
  ac_rfl

theorem eqVal_iff (s1 s2 : Str) (ic : Bool) : eqVal s1 s2 ic = true ↔ CEq ic s1 s2 := by
  unfold eqVal CEq lower lowerChar
  cases ic <;> simp

theorem ceq_length {ic : Bool} {x y : Str} (h : CEq ic x y) : x.length = y.length := by
  unfold CEq at h
  cases ic
  · simp at h; rw [h]
  · simp at h
    have := congrArg List.length h
    simpa using this

theorem ceq_nil {ic : Bool} {x : Str} (h : CEq ic [] x) : x = [] := by
  have := ceq_length h
  exact List.eq_nil_of_length_eq_zero this.symm

theorem cutWs_none {s : Str} (h : (cutWs s).2 = none) : (cutWs s).1 = s ∧ splitWs s = [s] := by
  induction s with
  | nil => simp [cutWs, splitWs]
  | cons c s ih =>
    simp only [cutWs] at h ⊢
    by_cases hc : isAsciiWs c = true
    · simp [hc] at h
    · simp only [hc] at h ⊢
      simp only [Bool.false_eq_true, ↓reduceIte] at h ⊢
      have := ih h
      simp only [splitWs, isDocWs_eq, hc, Bool.false_eq_true, ↓reduceIte, this.2, this.1, and_self]

theorem cutWs_some {s r : Str} (h : (cutWs s).2 = some r) :
    splitWs s = (cutWs s).1 :: splitWs r ∧ r.length < s.length := by
  induction s with
  | nil => simp [cutWs] at h
  | cons c s ih =>
    simp only [cutWs] at h ⊢
    by_cases hc : isAsciiWs c = true
    · simp only [hc, ↓reduceIte, Option.some.injEq] at h ⊢
      subst h
      simp [splitWs, isDocWs_eq, hc]
    · simp only [hc, Bool.false_eq_true, ↓reduceIte] at h ⊢
      have := ih h
      simp only [splitWs, isDocWs_eq, hc, Bool.false_eq_true, ↓reduceIte, this.1, List.length_cons]
      exact ⟨trivial, by omega⟩

theorem matchIncludeFuel_iff (val : Str) (ic : Bool) (hv : val ≠ []) :
    ∀ (fuel : Nat) (s : Str), s.length < fuel →
      (matchIncludeFuel val ic fuel s = true ↔ ∃ w ∈ splitWs s, CEq ic w val) := by
  intro fuel
  induction fuel with
  | zero => intro s h; omega
  | succ fuel ih =>
    intro s hlen
    unfold matchIncludeFuel
    by_cases hs : s = []
    · subst hs
      simp only [List.isEmpty_nil, ↓reduceIte, Bool.false_eq_true, splitWs, List.mem_singleton, exists_eq_left, false_iff]
      intro h; exact hv (ceq_nil h)
    · have : s.isEmpty = false := by cases s <;> simp_all
      simp only [this, Bool.false_eq_true, ↓reduceIte]
      cases hcut : (cutWs s).2 with
      | none =>
        have h1 := cutWs_none hcut
        have : cutWs s = (s, none) := Prod.ext h1.1 hcut
        rw [this]
        simp only [h1.2, List.mem_singleton, exists_eq_left, eqVal_iff]
      | some r =>
        have h1 := cutWs_some hcut
        have : cutWs s = ((cutWs s).1, some r) := Prod.ext rfl hcut
        rw [this]
        simp only [h1.1, List.mem_cons, exists_eq_or_imp]
        have ihr := ih r (by omega)
        by_cases hw : eqVal (cutWs s).1 val ic = true
        · simp only [hw, ↓reduceIte, true_iff]; exact Or.inl ((eqVal_iff _ _ _).1 hw)
        · simp only [hw, Bool.false_eq_true, ↓reduceIte, ihr]
          have : ¬ CEq ic (cutWs s).1 val := fun h => hw ((eqVal_iff _ _ _).2 h)
          simp [this]

theorem matchInclude_iff (val s : Str) (ic : Bool) :
    matchInclude val s ic = true ↔ val ≠ [] ∧ ∃ w ∈ splitWs s, CEq ic w val := by
  unfold matchInclude
  by_cases hv : val = []
  · subst hv; simp
  · have : val.isEmpty = false := by cases val <;> simp_all
    simp only [this, Bool.false_eq_true, ↓reduceIte, ne_eq, hv, not_false_eq_true, true_and]
    exact matchIncludeFuel_iff val ic hv _ s (by omega)

theorem not_goSpace_of_printable (c : Char) (h1 : 33 ≤ c.toNat) (h2 : c.toNat ≤ 126) : isGoSpace c = false := by
  unfold isGoSpace
  generalize c.toNat = n at *
  rw [Bool.eq_false_iff]
  simp only [ne_eq, Bool.or_eq_true, beq_iff_eq, Bool.and_eq_true, decide_eq_true_eq]
  omega

theorem goSpace_toLower (c : Char) : isGoSpace c.toLower = isGoSpace c := by
  unfold Char.toLower
  split
  · rename_i h
    have h1 : 65 ≤ c.val.toNat := by have := h.1; simpa [UInt32.le_iff_toNat_le] using this
    have h2 : c.val.toNat ≤ 90 := by have := h.2; simpa [UInt32.le_iff_toNat_le] using this
    have h3 : (c.val + ('a'.val - 'A'.val)).toNat = c.val.toNat + 32 := by
      rw [UInt32.toNat_add]
      have : ('a'.val - 'A'.val).toNat = 32 := by decide
      rw [this]; omega
    rw [not_goSpace_of_printable c (by show 33 ≤ c.val.toNat; omega) (by show c.val.toNat ≤ 126; omega)]
    apply not_goSpace_of_printable
    · show 33 ≤ (c.val + ('a'.val - 'A'.val)).toNat; omega
    · show (c.val + ('a'.val - 'A'.val)).toNat ≤ 126; omega
  · rfl

/-- the case folding applied to both sides when the `i` flag is set -/
def fold (ic : Bool) (s : Str) : Str := if ic then s.map Char.toLower else s

theorem lower_eq_fold (s : Str) : lower s = fold true s := by
  unfold lower fold lowerChar; simp

theorem ceq_iff_fold (ic : Bool) (x y : Str) : CEq ic x y ↔ fold ic x = fold ic y := by
  unfold CEq fold; cases ic <;> simp

theorem fold_append (ic : Bool) (x y : Str) : fold ic (x ++ y) = fold ic x ++ fold ic y := by
  unfold fold; cases ic <;> simp

theorem fold_split {ic : Bool} {s x y : Str} (h : fold ic s = x ++ y) :
    ∃ p r, s = p ++ r ∧ fold ic p = x ∧ fold ic r = y := by
  unfold fold at *
  cases ic
  · exact ⟨x, y, by simpa using h, by simp, by simp⟩
  · simp only [↓reduceIte] at h ⊢
    exact List.map_eq_append_iff.1 h

theorem isBlank_fold (ic : Bool) (s : Str) : isBlank (fold ic s) = isBlank s := by
  unfold fold isBlank
  cases ic
  · simp
  · simp only [↓reduceIte, List.all_map]
    congr 1
    funext c
    exact goSpace_toLower c

theorem isBlank_append (x y : Str) : isBlank (x ++ y) = (isBlank x && isBlank y) := by
  unfold isBlank; simp

theorem containsSub_iff (s v : Str) : containsSub s v = true ↔ v <:+: s := by
  induction s with
  | nil => simp [containsSub]
  | cons c s ih =>
    simp only [containsSub, Bool.or_eq_true, List.isPrefixOf_iff_prefix, ih, List.infix_cons_iff]

theorem not_blank_of_part {ic : Bool} {p m r val : Str} (hm : CEq ic m val) (hv : isBlank val = false) :
    isBlank (p ++ m ++ r) = false := by
  rw [ceq_iff_fold] at hm
  rw [isBlank_append, isBlank_append, ← isBlank_fold ic m, hm, isBlank_fold, hv]
  simp

/-- `^=`, `$=`, `*=` in the model: nothing for an empty value or a blank attribute, else the test `g`
    on the case-folded strings; `P` is what the definition asks of the attribute value -/
theorem guarded_iff {ic : Bool} {val s : Str} {g : Str → Str → Bool} {P : Prop}
    (hv : (val.isEmpty || !isBlank val) = true) (hg : g (fold ic val) (fold ic s) = true ↔ P)
    (hP : P → ∃ p m r, s = p ++ m ++ r ∧ CEq ic m val) :
    (if val.isEmpty || isBlank s then false
      else if ic then g (lower val) (lower s) else g val s) = true ↔ val ≠ [] ∧ P := by
  have : (if ic then g (lower val) (lower s) else g val s) = g (fold ic val) (fold ic s) := by
    cases ic <;> simp [lower_eq_fold, fold]
  rw [this]
  cases val with
  | nil => simp
  | cons c cs =>
    have hv' : isBlank (c :: cs) = false := by simpa using hv
    by_cases hs : isBlank s = true
    · simp only [hs, Bool.or_true, ↓reduceIte, Bool.false_eq_true, false_iff, not_and]
      rintro _ hp
      obtain ⟨p, m, r, rfl, hm⟩ := hP hp
      rw [not_blank_of_part hm hv'] at hs
      cases hs
    · simp [hs, hg]

theorem isPrefixOf_fold_iff (ic : Bool) (val s : Str) :
    (fold ic val).isPrefixOf (fold ic s) = true ↔ ∃ p r, s = p ++ r ∧ CEq ic p val := by
  simp only [List.isPrefixOf_iff_prefix, ceq_iff_fold]
  constructor
  · rintro ⟨t, ht⟩
    obtain ⟨p, r, hs, hp, _⟩ := fold_split ht.symm
    exact ⟨p, r, hs, hp⟩
  · rintro ⟨p, r, rfl, hp⟩
    rw [fold_append, hp]
    exact List.prefix_append _ _

theorem isSuffixOf_fold_iff (ic : Bool) (val s : Str) :
    (fold ic val).isSuffixOf (fold ic s) = true ↔ ∃ p r, s = p ++ r ∧ CEq ic r val := by
  simp only [List.isSuffixOf_iff_suffix, ceq_iff_fold]
  constructor
  · rintro ⟨t, ht⟩
    obtain ⟨p, r, hs, _, hr⟩ := fold_split ht.symm
    exact ⟨p, r, hs, hr⟩
  · rintro ⟨p, r, rfl, hp⟩
    rw [fold_append, hp]
    exact List.suffix_append _ _

theorem containsSub_fold_iff (ic : Bool) (val s : Str) :
    containsSub (fold ic s) (fold ic val) = true ↔ ∃ p m r, s = p ++ m ++ r ∧ CEq ic m val := by
  simp only [containsSub_iff, ceq_iff_fold]
  constructor
  · rintro ⟨a, b, hab⟩
    obtain ⟨pm, r, hs, hpm, _⟩ := fold_split hab.symm
    obtain ⟨p, m, hs2, _, hm⟩ := fold_split hpm
    exact ⟨p, m, r, by rw [hs, hs2], hm⟩
  · rintro ⟨p, m, r, rfl, hp⟩
    rw [fold_append, fold_append, hp]
    exact ⟨fold ic p, fold ic r, rfl⟩

theorem valMatch_iff (val : Str) (op : AttrOp) (ic : Bool) (s : Str) (hne : op ≠ .ne)
    (hv : valOk op val = true) : valMatch val op ic s = true ↔ ValHolds op ic val s := by
  cases op with
  | has => simp [valMatch, ValHolds]
  | eq => simp [valMatch, ValHolds, eqVal_iff]
  | ne => exact absurd rfl hne
  | incl =>
    simp only [valMatch, ValHolds, matchInclude_iff val s ic]
  | dash =>
    simp only [valMatch, ValHolds]
    by_cases h1 : eqVal s val ic = true
    · simp only [h1, ↓reduceIte, true_iff]; exact Or.inl ((eqVal_iff _ _ _).1 h1)
    · have h1' : ¬ CEq ic s val := fun h => h1 ((eqVal_iff _ _ _).2 h)
      simp only [h1, Bool.false_eq_true, ↓reduceIte, h1', false_or]
      by_cases h2 : s.length ≤ val.length
      · simp only [h2, ↓reduceIte, Bool.false_eq_true, false_iff]
        rintro ⟨p, r, rfl, hp⟩
        have := ceq_length hp
        simp at h2; omega
      · simp only [h2, ↓reduceIte, Bool.and_eq_true, beq_iff_eq, eqVal_iff]
        constructor
        · rintro ⟨h3, h4⟩
          have hlt : val.length < s.length := by omega
          refine ⟨s.take val.length, s.drop (val.length + 1), ?_, h4⟩
          rw [List.getElem?_eq_getElem hlt] at h3
          have h5 : s[val.length] = '-' := by simpa using h3
          rw [← h5, ← List.drop_eq_getElem_cons hlt, List.take_append_drop]
        · rintro ⟨p, r, rfl, hp⟩
          have hl := ceq_length hp
          rw [← hl]
          simp only [List.take_left', and_true, hp]
          simp
  | pre =>
    exact guarded_iff (g := List.isPrefixOf) hv (isPrefixOf_fold_iff ic val s)
      fun ⟨p, r, hs, hp⟩ => ⟨[], p, r, hs, hp⟩
  | suf =>
    exact guarded_iff (g := List.isSuffixOf) hv (isSuffixOf_fold_iff ic val s)
      fun ⟨p, r, hs, hp⟩ => ⟨p, r, [], by simpa using hs, hp⟩
  | sub => exact guarded_iff (g := fun v s => containsSub s v) hv (containsSub_fold_iff ic val s) id

theorem attrsAny_iff (attrs : List Attr) (key : Str) (f : Str → Bool) :
    attrs.any (fun a => a.1 == key && f a.2) = true ↔ ∃ s, (key, s) ∈ attrs ∧ f s = true := by
  simp only [List.any_eq_true, Bool.and_eq_true, beq_iff_eq]
  constructor
  · rintro ⟨⟨k, v⟩, hm, hk, hf⟩
    simp only at hk hf
    subst hk
    exact ⟨v, hm, hf⟩
  · rintro ⟨s, hm, hf⟩
    exact ⟨(key, s), hm, rfl, hf⟩

theorem matchAttribute_iff (kind : Kind) (attrs : List Attr) (key : Str) (f : Str → Bool) :
    matchAttribute kind attrs key f = true ↔ kind = .elem ∧ ∃ s, (key, s) ∈ attrs ∧ f s = true := by
  unfold matchAttribute
  simp only [Bool.and_eq_true, beq_iff_eq, attrsAny_iff]

theorem nthGo_iff (a i : Int) (ha : a ≠ 0) : nthGo a i = true ↔ ∃ n : Nat, i = a * n := by
  unfold nthGo
  simp only [Bool.and_eq_true, beq_iff_eq, decide_eq_true_eq]
  constructor
  · rintro ⟨h1, h2⟩
    refine ⟨(i.tdiv a).toNat, ?_⟩
    have := Int.tmod_add_mul_tdiv i a
    rw [h1] at this
    have h3 : ((i.tdiv a).toNat : Int) = i.tdiv a := Int.toNat_of_nonneg h2
    rw [h3]; omega
  · rintro ⟨n, rfl⟩
    constructor
    · simp [Int.mul_tmod_right]
    · rw [Int.mul_tdiv_cancel_left _ ha]; omega

theorem prevAux_nodes (f : Frame) (fs : List Frame) :
    ∀ (left : List Node) (cur : Node) (right : List Node),
      (Loc.prevAux f fs left cur right).map (·.node) = left := by
  intro left
  induction left with
  | nil => intros; rfl
  | cons p ps ih => intro cur right; simp [Loc.prevAux, ih]

theorem nextAux_nodes (f : Frame) (fs : List Frame) :
    ∀ (right : List Node) (left : List Node) (cur : Node),
      (Loc.nextAux f fs left cur right).map (·.node) = right := by
  intro right
  induction right with
  | nil => intros; rfl
  | cons q qs ih => intro left cur; simp [Loc.nextAux, ih]

theorem childrenAux_nodes (k : Kind) (d : Str) (a : List Attr) (fs : List Frame) :
    ∀ (cs left : List Node), (Loc.childrenAux k d a fs left cs).map (·.node) = cs := by
  intro cs
  induction cs with
  | nil => intros; rfl
  | cons c cs ih => intro left; simp [Loc.childrenAux, ih]

theorem children_nodes (l : Loc) : l.children.map (·.node) = l.node.children :=
  childrenAux_nodes _ _ _ _ _ _

/-- number of nodes of a list that the counting loops do not skip -/
def qual (ofType : Bool) (d : Str) (ns : List Node) : Nat :=
  (ns.filter (fun c => !skips ofType d c)).length

theorem counts_eq (ofType : Bool) (l s : Loc) : counts ofType l s = !skips ofType l.data s.node := by
  simp only [counts, skips, Loc.kind, Loc.data, bne]
  generalize (s.node.kind == Kind.elem) = x
  generalize (s.node.data == l.node.data) = y
  cases ofType <;> cases x <;> cases y <;> rfl

theorem filter_counts_length (ofType : Bool) (l : Loc) (xs : List Loc) :
    (xs.filter (counts ofType l)).length = qual ofType l.data (xs.map (·.node)) := by
  unfold qual
  induction xs with
  | nil => rfl
  | cons x xs ih =>
    simp only [List.filter_cons, List.map_cons, counts_eq]
    cases (!skips ofType l.data x.node) <;> simp [ih]

theorem qual_reverse (ofType : Bool) (d : Str) (ns : List Node) :
    qual ofType d ns.reverse = qual ofType d ns := by
  simp [qual, List.filter_reverse]

theorem qual_cons (ofType : Bool) (d : Str) (c : Node) (ns : List Node) :
    qual ofType d (c :: ns) = (if skips ofType d c then 0 else 1) + qual ofType d ns := by
  simp only [qual, List.filter_cons]
  cases skips ofType d c <;> simp <;> omega

theorem index_eq (last ofType : Bool) (n : Node) (f : Frame) (fs : List Frame) :
    index last ofType ⟨n, f :: fs⟩ = qual ofType n.data (if last then f.right else f.left) + 1 := by
  unfold index
  rw [filter_counts_length]
  cases last
  · simp [Loc.prevSibs, prevAux_nodes, Loc.data]
  · simp [Loc.nextSibs, nextAux_nodes, Loc.data]

theorem nthLoop_unmarked (last ofType : Bool) (d : Str) (rest : List (Bool × Node)) :
    ∀ (xs : List Node) (i c : Int),
      nthLoop last ofType d (xs.map (fun c => (false, c)) ++ rest) i c
        = nthLoop last ofType d rest i (c + qual ofType d xs) := by
  intro xs
  induction xs with
  | nil => intro i c; simp [qual]
  | cons x xs ih =>
    intro i c
    simp only [List.map_cons, List.cons_append, nthLoop, qual_cons]
    cases h : skips ofType d x
    · simp only [Bool.false_eq_true, ↓reduceIte, ih]
      congr 1; simp; omega
    · simp only [↓reduceIte, ih]
      congr 1; simp

theorem nthLoop_sibList (last ofType : Bool) (n : Node) (f : Frame)
    (hn : skips ofType n.data n = false) :
    nthLoop last ofType n.data (sibList f n) (-1) 0 =
      ((qual ofType n.data f.left : Int) + 1,
       (qual ofType n.data f.left : Int) + 1 + (if last then (qual ofType n.data f.right : Int) else 0)) := by
  unfold sibList
  rw [nthLoop_unmarked, qual_reverse]
  simp only [nthLoop, hn, Bool.false_eq_true, ↓reduceIte]
  cases last
  · simp
  · simp only [Bool.not_true, Bool.false_eq_true, ↓reduceIte]
    have := nthLoop_unmarked true ofType n.data [] f.right
      (0 + (qual ofType n.data f.left : Int) + 1) (0 + (qual ofType n.data f.left : Int) + 1)
    simp only [List.append_nil] at this
    rw [this]
    simp [nthLoop]

theorem simpleLoop_marked (b : Int) (ofType : Bool) (d : Str) (n : Node) (rest : List (Bool × Node))
    (hn : skips ofType d n = false) :
    ∀ (xs : List Node) (c : Int),
      simpleLoop b ofType d (xs.map (fun c => (false, c)) ++ (true, n) :: rest) c
        = (c + qual ofType d xs + 1 == b) := by
  intro xs
  induction xs with
  | nil => intro c; simp [simpleLoop, hn, qual]
  | cons x xs ih =>
    intro c
    simp only [List.map_cons, List.cons_append, simpleLoop, qual_cons]
    cases h : skips ofType d x
    · simp only [Bool.false_eq_true, ↓reduceIte]
      by_cases hb : c + 1 ≥ b
      · simp only [hb, ↓reduceIte]
        symm; rw [beq_eq_false_iff_ne]; simp; omega
      · simp only [hb, ↓reduceIte, ih]
        congr 1; simp; omega
    · simp only [↓reduceIte, ih]
      congr 1; simp

theorem onlyLoop_eq (ofType : Bool) (d : Str) :
    ∀ (xs : List (Bool × Node)) (c : Nat), c ≤ 1 →
      onlyLoop ofType d xs c =
        (if c + qual ofType d (xs.map (·.2)) ≤ 1 then some (c + qual ofType d (xs.map (·.2))) else none) := by
  intro xs
  induction xs with
  | nil => intro c hc; simp [onlyLoop, qual, hc]
  | cons x xs ih =>
    intro c hc
    obtain ⟨m, x⟩ := x
    simp only [onlyLoop, List.map_cons, qual_cons]
    cases h : skips ofType d x
    · simp only [Bool.false_eq_true, ↓reduceIte]
      by_cases h1 : c + 1 > 1
      · simp only [h1, ↓reduceIte]
        rw [if_neg (by omega)]
      · simp only [h1, ↓reduceIte]
        rw [ih (c + 1) (by omega)]
        have : c + 1 + qual ofType d (xs.map (·.2)) = c + (1 + qual ofType d (xs.map (·.2))) := by omega
        rw [this]
    · simp only [↓reduceIte, Nat.zero_add]
      exact ih c hc

theorem emptyLoop_iff (cs : List Node) :
    emptyLoop cs = true ↔ ∀ c ∈ cs, c.kind ≠ .elem ∧ (c.kind = .text → isDocBlank c.data = true) := by
  induction cs with
  | nil => simp [emptyLoop]
  | cons c cs ih =>
    simp only [emptyLoop, List.mem_cons, forall_eq_or_imp]
    cases hk : c.kind <;> simp [ih]

theorem tag_iff (name : Str) (l : Loc) : selMatch (.tag name) l = true ↔ Matches (.tag name) l := by
  simp [selMatch, Matches, IsElem]

theorem attr_iff (key val : Str) (op : AttrOp) (ic : Bool) (l : Loc)
    (hv : valOk op val = true) :
    attrMatch key val op ic l = true ↔ AttrHolds key val op ic l := by
  by_cases hne : op = .ne
  · subst hne
    simp only [attrMatch, AttrHolds, IsElem, Bool.and_eq_true, beq_iff_eq, Bool.not_eq_true',
      ← Bool.not_eq_true, valMatch]
    rw [attrsAny_iff l.attrs key (fun s => eqVal s val ic)]
    simp only [eqVal_iff]
  · have h1 : attrMatch key val op ic l = matchAttribute l.kind l.attrs key (valMatch val op ic) := by
      cases op <;> first | rfl | exact absurd rfl hne
    have h2 : AttrHolds key val op ic l ↔ IsElem l ∧ ∃ s, (key, s) ∈ l.attrs ∧ ValHolds op ic val s := by
      cases op <;> first | rfl | exact absurd rfl hne
    rw [h1, h2, matchAttribute_iff]
    apply and_congr Iff.rfl
    constructor
    · rintro ⟨s, hm, hs⟩; exact ⟨s, hm, (valMatch_iff val op ic s hne hv).1 hs⟩
    · rintro ⟨s, hm, hs⟩; exact ⟨s, hm, (valMatch_iff val op ic s hne hv).2 hs⟩

theorem cls_iff (name : Str) (l : Loc) :
    selMatch (.cls name) l = true ↔ Matches (.cls name) l := by
  rw [selMatch, Matches]
  exact attr_iff classKey name .incl false l rfl

theorem id_iff (name : Str) (l : Loc) :
    selMatch (.id name) l = true ↔ Matches (.id name) l := by
  rw [selMatch, Matches]
  exact attr_iff idKey name .eq false l rfl

theorem skips_self (ofType : Bool) (n : Node) (h : n.kind = .elem) : skips ofType n.data n = false := by
  simp [skips, h]

theorem sibList_reverse (f : Frame) (n : Node) :
    (sibList f n).reverse =
      f.right.reverse.map (fun c => (false, c)) ++ (true, n) :: f.left.map (fun c => (false, c)) := by
  simp [sibList, List.map_reverse]

/-- the skeleton shared by `nthChildMatch`, `simpleNthMatch` and `onlyMatch`: an element, with a parent,
    whose place among its siblings passes the test -/
theorem childTest_iff (l : Loc) (body : Frame → Bool) (P : Prop)
    (h : ∀ n f fs, l = ⟨n, f :: fs⟩ → n.kind = .elem → (body f = true ↔ P)) :
    (if l.kind != .elem then false else
      match l.path with
      | [] => false
      | f :: _ => body f) = true ↔ IsElem l ∧ HasParent l ∧ P := by
  by_cases hk : l.kind = .elem
  · have hnk : (l.kind != Kind.elem) = false := by simp [hk]
    obtain ⟨n, path⟩ := l
    cases path with
    | nil => simp [hnk, HasParent, Loc.parent?]
    | cons f fs =>
      have hpar : HasParent ⟨n, f :: fs⟩ := ⟨_, rfl⟩
      simp only [IsElem, hk, hpar, true_and]
      exact h n f fs rfl hk
  · have : (l.kind != Kind.elem) = true := by simp [hk]
    simp [this, IsElem, hk]

theorem nth_iff (a b : Int) (last ofType : Bool) (l : Loc) :
    selMatch (.nth a b last ofType) l = true ↔ Matches (.nth a b last ofType) l := by
  simp only [selMatch, Matches]
  by_cases ha : a = 0
  · subst ha
    simp only [beq_self_eq_true, ↓reduceIte]
    refine childTest_iff l (fun f => simpleLoop b ofType l.data
      (if last then (sibList f l.node).reverse else sibList f l.node) 0) _ fun n f fs hl hk => ?_
    subst hl
    have hs := skips_self ofType n hk
    -- the siblings before the element in the direction of the count
    have hloop : simpleLoop b ofType n.data (if last then (sibList f n).reverse else sibList f n) 0 =
        ((0 : Int) + qual ofType n.data (if last then f.right else f.left) + 1 == b) := by
      cases last
      · exact (simpleLoop_marked b ofType n.data n _ hs f.left.reverse 0).trans (by rw [qual_reverse]; rfl)
      · simp only [↓reduceIte, sibList_reverse]
        exact (simpleLoop_marked b ofType n.data n _ hs f.right.reverse 0).trans (by rw [qual_reverse])
    simp only [Loc.data, hloop, index_eq, AnB, beq_iff_eq, Int.zero_mul, Int.zero_add]
    constructor
    · intro h; exact ⟨0, by omega⟩
    · rintro ⟨_, h⟩; omega
  · have ha' : (a == 0) = false := by simp [ha]
    simp only [ha', Bool.false_eq_true, ↓reduceIte]
    refine childTest_iff l (fun f =>
      let r := nthLoop last ofType l.data (sibList f l.node) (-1) 0
      if r.1 == -1 then false else
      let i := if last then r.2 - r.1 + 1 else r.1
      let i := i - b
      if a == 0 then i == 0 else nthGo a i) _ fun n f fs hl hk => ?_
    subst hl
    have hs := skips_self ofType n hk
    have h1 : ((qual ofType n.data f.left : Int) + 1 == -1) = false := by
      rw [beq_eq_false_iff_ne]; omega
    simp only [Loc.data, nthLoop_sibList last ofType n f hs, h1, ha', Bool.false_eq_true, ↓reduceIte,
      nthGo_iff _ _ ha, index_eq, AnB]
    cases last
    all_goals
      simp only [Bool.false_eq_true, ↓reduceIte]
      constructor
      · rintro ⟨k, hk⟩; exact ⟨k, by push_cast; omega⟩
      · rintro ⟨k, hk⟩; exact ⟨k, by push_cast at hk; omega⟩

theorem qual_zero_iff (ofType : Bool) (l : Loc) (xs : List Loc) :
    qual ofType l.data (xs.map (·.node)) = 0 ↔ ∀ s ∈ xs, counts ofType l s = false := by
  rw [← filter_counts_length, List.length_eq_zero_iff, List.filter_eq_nil_iff]
  simp

theorem only_iff (ofType : Bool) (l : Loc) :
    selMatch (.only ofType) l = true ↔ Matches (.only ofType) l := by
  simp only [selMatch, Matches]
  refine childTest_iff l (fun f => onlyLoop ofType l.data (sibList f l.node) 0 == some 1) _
    fun n f fs hl hk => ?_
  subst hl
  have hs := skips_self ofType n hk
  have hm : (sibList f n).map (·.2) = f.left.reverse ++ n :: f.right := by
    simp [sibList, Function.comp_def]
  have hq : qual ofType n.data (f.left.reverse ++ n :: f.right)
      = qual ofType n.data f.left + 1 + qual ofType n.data f.right := by
    simp only [qual, List.filter_append, List.filter_cons, hs, Bool.not_false, ↓reduceIte,
      List.length_append, List.length_cons, List.filter_reverse, List.length_reverse]
    omega
  have h1 := qual_zero_iff ofType ⟨n, f :: fs⟩ (Loc.prevSibs ⟨n, f :: fs⟩)
  have h2 := qual_zero_iff ofType ⟨n, f :: fs⟩ (Loc.nextSibs ⟨n, f :: fs⟩)
  simp only [Loc.prevSibs, prevAux_nodes, Loc.nextSibs, nextAux_nodes, Loc.data] at h1 h2
  simp only [Loc.data, onlyLoop_eq ofType n.data _ 0 (by omega), hm, hq, List.mem_append, Loc.prevSibs,
    Loc.nextSibs, or_imp, forall_and, ← h1, ← h2]
  constructor
  · intro h
    simp at h; omega
  · rintro ⟨e1, e2⟩
    simp [e1, e2]

theorem empty_iff (l : Loc) : selMatch .empty l = true ↔ Matches .empty l := by
  simp only [selMatch, Matches, IsElem, Bool.and_eq_true, beq_iff_eq, emptyLoop_iff]
  rw [← children_nodes, List.forall_mem_map]
  apply and_congr Iff.rfl
  apply forall_congr'; intro c
  apply forall_congr'; intro hc
  apply and_congr Iff.rfl
  apply forall_congr'; intro ht
  simp only [isDocBlank, List.all_eq_true, isDocWs_eq]
  exact Iff.rfl

theorem root_iff (l : Loc) (hl : LocalOk l) : selMatch .root l = true ↔ Matches .root l := by
  simp only [selMatch, Matches, IsElem, Bool.and_eq_true, beq_iff_eq]
  constructor
  · rintro ⟨⟨hk, hd⟩, hp⟩
    refine ⟨hk, ?_⟩
    rintro ⟨p, hpp, hpe⟩
    rw [hpp] at hp
    simp only [beq_iff_eq] at hp
    rw [hp] at hpe
    exact Kind.noConfusion hpe
  · rintro ⟨hk, hp⟩
    cases hpar : l.parent? with
    | none => exact ⟨⟨hk, hl.detached hk hpar⟩, by simp⟩
    | some p =>
      rcases hl.root hk p hpar with h | ⟨h1, h2⟩
      · exact absurd ⟨p, hpar, h⟩ hp
      · exact ⟨⟨hk, h2⟩, by simp [h1]⟩

theorem any_iff_of_mem {xs : List Loc} {f : Loc → Bool} {P : Loc → Prop} (h : ∀ d ∈ xs, (f d = true ↔ P d)) :
    xs.any f = true ↔ ∃ d ∈ xs, P d := by
  simp only [List.any_eq_true]
  exact exists_congr fun d => and_congr_right fun hd => h d hd

/-- the node `siblingMatch` looks at is the nearest previous element, if it is an element: a
    Doctype or Document node in between would have no element before it -/
theorem nearestPrevElem_iff {l : Loc} (hok : LocalOk l) (e : Loc) :
    NearestPrevElem l e ↔ adjacentOf l = some e ∧ IsElem e := by
  unfold adjacentOf NearestPrevElem
  rw [List.find?_eq_some_iff_append]
  constructor
  · rintro ⟨between, rest, hsp, he, hb⟩
    have hek : e.kind = .elem := he
    refine ⟨⟨by simp [hek], between, rest, hsp, fun x hx => ?_⟩, he⟩
    obtain ⟨pre, post, rfl⟩ := List.append_of_mem hx
    have hother := hok.other pre x (post ++ e :: rest) (by rw [hsp]; simp)
    have hne : x.kind ≠ .elem := hb x hx
    cases hk : x.kind with
    | elem => exact absurd hk hne
    | text => rfl
    | comment => rfl
    | other => exact absurd hek (hother (Or.inl hk) e (by simp))
    | doc => exact absurd hek (hother (Or.inr hk) e (by simp))
  · rintro ⟨⟨_, as, bs, hsp, has⟩, he⟩
    refine ⟨as, bs, hsp, he, fun x hx hxe => ?_⟩
    have := has x hx
    have hxe' : x.kind = .elem := hxe
    simp [hxe'] at this

theorem parent_mem_ancestors {l p : Loc} (h : l.parent? = some p) : p ∈ l.ancestors := by
  obtain ⟨n, path⟩ := l
  cases path with
  | nil => simp [Loc.parent?] at h
  | cons f fs =>
    simp only [Loc.parent?, Option.some.injEq] at h
    subst h
    simp [Loc.ancestors, Loc.ancestorsAux]

theorem matches_elem : ∀ (s : Sel) (l : Loc), Matches s l → IsElem l
  | .combined _ _ d, l, h => matches_elem d l h.1
  | .never _, _, h => False.elim h
  | .tag _, _, h | .cls _, _, h | .id _, _, h | .attr _ _ _ _, _, h | .nth _ _ _ _, _, h | .only _, _, h
  | .empty, _, h | .root, _, h | .rel _ _, _, h | .compound _ _, _, h => h.1

end WR.C05.Lemmas
