/-
  C05 — `String()` then `ParseGroup`, the lexical level: what the printer writes for a name, a string,
  an integer or `an+b` is read back by `parseName`, `parseIdentifier`, `parseString`, `parseInteger`
  and `parseNth`.  Each printed character is one turn of the reading loop (`escapeChar_cases`,
  `escapeStringChar_cases`).  Four finite tables are evaluated: the classes of the ASCII characters,
  the special characters, the hex digits of the ASCII codes, the decimal digits.
-/
import WR.C05.Printable
namespace WR.C05.Lemmas
open WR.C05 WR.C05.Parse WR.C05.Print

theorem ne_of_pred {p : Char → Bool} {c x : Char} (hc : p c = true) (hx : p x = false) : c ≠ x := by
  rintro rfl
  rw [hc] at hx
  cases hx

/-- ASCII is made of control characters, the characters `escape` puts a backslash before, digits
    and characters that start a name -/
theorem ascii_classes : ∀ n, n < 128 →
    (decide (n < 0x20) || n == 0x7f || nameStart (Char.ofNat n) || isDigit (Char.ofNat n) ||
      isSpecial (Char.ofNat n)) = true := by
  decide +kernel

theorem char_classes (c : Char) :
    c.toNat < 0x20 ∨ c.toNat = 0x7f ∨ nameStart c = true ∨ isDigit c = true ∨ isSpecial c = true := by
  by_cases h : c.toNat < 128
  · have := ascii_classes c.toNat h
    rw [Char.ofNat_toNat] at this
    simpa [or_assoc] using this
  · have : decide (c.toNat > 127) = true := by simp; omega
    simp [nameStart, this]

theorem nameChar_of_nameStart {c : Char} (h : nameStart c = true) : nameChar c = true := by
  simp only [nameStart, nameChar, Bool.or_eq_true] at h ⊢
  exact Or.inl (Or.inl h)

theorem nameChar_of_digit {c : Char} (h : isDigit c = true) : nameChar c = true := by
  simp only [nameChar, Bool.or_eq_true]
  exact Or.inr h

theorem isDigit_toNat_lt (c : Char) (h : isDigit c = true) : c.toNat < 128 := by
  simp only [isDigit, Bool.and_eq_true, decide_eq_true_eq] at h
  have := UInt32.le_iff_toNat_le.1 (Char.le_def.1 h.2)
  have h9 : ('9' : Char).val.toNat = 57 := by decide
  simp only [Char.toNat]
  omega

/-- the special characters: a backslash followed by one of them is the literal character -/
theorem special_facts : ∀ c ∈ ",!\"#$%&'()*+ -./:;<=>?@[\\]^`{|}~".toList,
    (!isHex c && !(c == '\r' || c == '\n' || c == '\x0c') && !nameChar c || c == '-') = true := by
  decide +kernel

theorem special_not_hex (c : Char) (h : isSpecial c = true) :
    isHex c = false ∧ (c == '\r' || c == '\n' || c == '\x0c') = false := by
  unfold isSpecial at h
  have := special_facts c (List.contains_iff_mem.1 h)
  simp only [Bool.or_eq_true, Bool.and_eq_true, Bool.not_eq_true', beq_iff_eq] at this
  rcases this with h | rfl
  · exact ⟨h.1.1, h.1.2⟩
  · exact ⟨by decide, by decide⟩

theorem hexDigits_readback_ascii : ∀ n, n < 128 → n ≠ 0 →
    ((hexDigits n).all isHex && decide ((hexDigits n).length ≤ 6) &&
      decide (hexVal (hexDigits n) = n)) = true := by
  decide +kernel

theorem spanHex_exact : ∀ (ds : Str) (n : Nat) (r : Str), ds.all isHex = true → ds.length ≤ n →
    spanHex n (ds ++ ' ' :: r) = (ds, ' ' :: r) := by
  intro ds
  induction ds with
  | nil =>
    intro n r _ _
    cases n with
    | zero => rfl
    | succ n => simp only [List.nil_append, spanHex]; rw [if_neg (by decide)]
  | cons d ds ih =>
    intro n r hall hlen
    simp only [List.all_cons, Bool.and_eq_true] at hall
    cases n with
    | zero => simp at hlen
    | succ n =>
      simp only [List.length_cons] at hlen
      simp only [List.cons_append, spanHex, hall.1, ↓reduceIte, ih n r hall.2 (by omega)]

theorem runeOf_toNat (c : Char) : runeOf c.toNat = c := by
  have : c.toNat.isValidChar := c.valid
  simp [runeOf, this, Char.ofNat_toNat]

theorem not_newline_of_hex {d : Char} (h : isHex d = true) :
    (d == '\r' || d == '\n' || d == '\x0c') = false := by
  simp only [Bool.or_eq_false_iff, beq_eq_false_iff_ne]
  exact ⟨⟨ne_of_pred h (by decide), ne_of_pred h (by decide)⟩, ne_of_pred h (by decide)⟩

theorem parseEscape_hex (c : Char) (h1 : c.toNat < 128) (h0 : c.toNat ≠ 0) (r : Str) :
    parseEscape ('\\' :: (hexDigits c.toNat ++ ' ' :: r)) = .ok (c, r) := by
  have hf := hexDigits_readback_ascii c.toNat h1 h0
  simp only [Bool.and_eq_true, decide_eq_true_eq] at hf
  obtain ⟨⟨hall, hlen⟩, hval⟩ := hf
  have hsp := spanHex_exact _ 6 r hall hlen
  generalize hexDigits c.toNat = ds at *
  cases ds with
  | nil => exact absurd hval.symm h0
  | cons d ds' =>
    simp only [List.all_cons, Bool.and_eq_true] at hall
    simp only [List.cons_append] at hsp ⊢
    simp only [parseEscape, not_newline_of_hex hall.1, Bool.false_eq_true, ↓reduceIte, hall.1, hsp, hval,
      runeOf_toNat]

theorem parseEscape_literal (c : Char) (hh : isHex c = false)
    (hn : (c == '\r' || c == '\n' || c == '\x0c') = false) (r : Str) :
    parseEscape ('\\' :: c :: r) = .ok (c, r) := by
  simp [parseEscape, hh, hn]

/-- how `escape` writes one character other than U+0000: as a hex escape, with a backslash before
    it, or as it is; a hyphen is written as it is at the start of a longer name -/
theorem escapeChar_cases (first ad alone : Bool) (c : Char) (h0 : c.toNat ≠ 0) :
    (escapeChar first ad alone c = '\\' :: hexDigits c.toNat ++ [' '] ∧ c.toNat < 128) ∨
    (escapeChar first ad alone c = ['\\', c] ∧ isHex c = false ∧
      (c == '\r' || c == '\n' || c == '\x0c') = false) ∨
    (escapeChar first ad alone c = ['-'] ∧ c = '-' ∧ first = true ∧ alone = false) ∨
    (escapeChar first ad alone c = [c] ∧ nameChar c = true ∧ c ≠ '-' ∧
      ((first || ad) = true → nameStart c = true)) := by
  unfold escapeChar
  rw [if_neg h0]
  by_cases hx : (decide (c.toNat < 0x20) || decide (c.toNat = 0x7F) || (isDigit c && (first || ad))) = true
  · rw [if_pos hx]
    refine Or.inl ⟨rfl, ?_⟩
    simp only [Bool.or_eq_true, decide_eq_true_eq, Bool.and_eq_true] at hx
    rcases hx with (hx | hx) | hx
    · omega
    · omega
    · exact isDigit_toNat_lt c hx.1
  rw [if_neg hx]
  simp only [Bool.or_eq_true, decide_eq_true_eq, Bool.and_eq_true, not_or, not_and] at hx
  by_cases hd : c = '-'
  · subst hd
    have hsp : isSpecial '-' = true := by decide +kernel
    cases alone
    · cases first
      · refine Or.inr (Or.inl ⟨?_, by decide, by decide⟩)
        rw [if_neg (by decide), if_neg (by decide), if_pos hsp]
      · refine Or.inr (Or.inr (Or.inl ⟨?_, rfl, rfl, rfl⟩))
        rw [if_neg (by decide), if_pos (by decide)]
    · refine Or.inr (Or.inl ⟨?_, by decide, by decide⟩)
      rw [if_pos (by decide)]
  · have e : (c == '-') = false := by simpa using hd
    simp only [e, Bool.false_and, Bool.false_eq_true, ↓reduceIte]
    by_cases hs : isSpecial c = true
    · rw [if_pos hs]
      exact Or.inr (Or.inl ⟨rfl, special_not_hex c hs⟩)
    · rw [if_neg hs]
      rcases char_classes c with h | h | h | h | h
      · exact absurd h hx.1.1
      · exact absurd h hx.1.2
      · exact Or.inr (Or.inr (Or.inr ⟨rfl, nameChar_of_nameStart h, hd, fun _ => h⟩))
      · exact Or.inr (Or.inr (Or.inr ⟨rfl, nameChar_of_digit h, hd,
          fun hfa => absurd hfa (by simpa using hx.2 h)⟩))
      · exact absurd h hs

theorem escapeChar_pos (first ad alone : Bool) (c : Char) (h0 : c.toNat ≠ 0) :
    0 < (escapeChar first ad alone c).length := by
  rcases escapeChar_cases first ad alone c h0 with h | h | h | h <;> simp [h.1]

/-- what the loop of `parseName` returns when it stops -/
def finishName (tail acc : Str) : Res Str :=
  if acc.isEmpty then .error .malformed else .ok (acc.reverse, tail)

/-- the remaining input does not continue a name -/
def StopsName : Str → Prop
  | [] => True
  | c :: _ => nameChar c = false ∧ c ≠ '\\'

theorem parseNameF_cons (fuel : Nat) (c : Char) (rest acc : Str) :
    parseNameF (fuel + 1) (c :: rest) acc =
      if nameChar c then parseNameF fuel rest (c :: acc)
      else if c == '\\' then
        match parseEscape (c :: rest) with
        | .ok (v, r) => parseNameF fuel r (v :: acc)
        | .error e => .error e
      else if acc.isEmpty then .error .malformed else .ok (acc.reverse, c :: rest) := by
  rw [parseNameF.eq_def]
  rfl

theorem parseNameF_stop (fuel : Nat) (tail acc : Str) (h : StopsName tail) :
    parseNameF (fuel + 1) tail acc = finishName tail acc := by
  cases tail with
  | nil => rw [parseNameF.eq_def]; rfl
  | cons c t =>
    have : (c == '\\') = false := by simpa using h.2
    rw [parseNameF_cons]
    simp only [h.1, Bool.false_eq_true, ↓reduceIte, this, finishName]

theorem parseNameF_raw (fuel : Nat) (c : Char) (s acc : Str) (h : nameChar c = true) :
    parseNameF (fuel + 1) (c :: s) acc = parseNameF fuel s (c :: acc) := by
  rw [parseNameF_cons, if_pos h]

theorem parseNameF_esc (fuel : Nat) (c : Char) (body s acc : Str)
    (h : parseEscape ('\\' :: body) = .ok (c, s)) :
    parseNameF (fuel + 1) ('\\' :: body) acc = parseNameF fuel s (c :: acc) := by
  rw [parseNameF_cons, if_neg (by decide), if_pos (by decide), h]

theorem parseNameF_step (first ad alone : Bool) (c : Char) (h0 : c.toNat ≠ 0) (fuel : Nat) (s acc : Str) :
    parseNameF (fuel + 1) (escapeChar first ad alone c ++ s) acc = parseNameF fuel s (c :: acc) := by
  rcases escapeChar_cases first ad alone c h0 with ⟨h, hlt⟩ | ⟨h, hh, hn⟩ | ⟨h, rfl, _⟩ | ⟨h, hn, _⟩
  · simp only [h, List.cons_append, List.append_assoc, List.nil_append]
    exact parseNameF_esc fuel c _ s acc (parseEscape_hex c hlt h0 s)
  · rw [h]
    exact parseNameF_esc fuel c _ s acc (parseEscape_literal c hh hn s)
  · rw [h]
    exact parseNameF_raw fuel '-' s acc (by decide)
  · rw [h]
    exact parseNameF_raw fuel c s acc hn

theorem parseNameF_escapeTail : ∀ (cs : Str), (∀ c ∈ cs, c.toNat ≠ 0) →
    ∀ (ad : Bool) (fuel : Nat) (tail acc : Str), StopsName tail →
      (escapeTail ad cs ++ tail).length < fuel →
      parseNameF fuel (escapeTail ad cs ++ tail) acc = finishName tail (cs.reverse ++ acc) := by
  intro cs
  induction cs with
  | nil =>
    intro _ ad fuel tail acc hstop hlen
    cases fuel with
    | zero => omega
    | succ fuel => exact parseNameF_stop fuel tail acc hstop
  | cons c cs ih =>
    intro hnz ad fuel tail acc hstop hlen
    have h0 := hnz c (List.mem_cons_self ..)
    cases fuel with
    | zero => omega
    | succ fuel =>
      have hl := escapeChar_pos false ad false c h0
      simp only [escapeTail, List.append_assoc, List.length_append] at hlen ⊢
      rw [parseNameF_step false ad false c h0,
        ih (fun x hx => hnz x (List.mem_cons_of_mem _ hx)) false fuel tail (c :: acc) hstop
          (by simp only [List.length_append]; omega)]
      simp

theorem identOk_cons {c : Char} {cs : Str} (h : identOk (c :: cs) = true) :
    c.toNat ≠ 0 ∧ ∀ x ∈ cs, x.toNat ≠ 0 := by
  simpa [identOk] using h

theorem parseName_escape (name tail : Str) (hok : identOk name = true) (hstop : StopsName tail) :
    parseName (escape name ++ tail) = .ok (name, tail) := by
  cases name with
  | nil => simp [identOk] at hok
  | cons c cs =>
    obtain ⟨h0, hcs⟩ := identOk_cons hok
    have hl := escapeChar_pos true false cs.isEmpty c h0
    simp only [parseName, escape, List.append_assoc, List.length_append]
    rw [parseNameF_step true false cs.isEmpty c h0,
      parseNameF_escapeTail cs hcs _ _ tail [c] hstop (by simp only [List.length_append]; omega)]
    simp [finishName]

/-- letters, digits and hyphens, starting with a letter: what the keywords of the grammar are made of -/
def plainName (n : Str) : Bool :=
  match n with
  | [] => false
  | c :: _ => isLetter c && n.all (fun x => isLetter x || x == '-' || isDigit x)

theorem nameStart_of_letter {c : Char} (h : isLetter c = true) : nameStart c = true := by
  simp [nameStart, h]

theorem parseNameF_plain : ∀ (n : Str), n.all (fun x => isLetter x || x == '-' || isDigit x) = true →
    ∀ (fuel : Nat) (tail acc : Str), StopsName tail → (n ++ tail).length < fuel →
      parseNameF fuel (n ++ tail) acc = finishName tail (n.reverse ++ acc) := by
  intro n
  induction n with
  | nil =>
    intro _ fuel tail acc hstop hlen
    cases fuel with
    | zero => omega
    | succ fuel => exact parseNameF_stop fuel tail acc hstop
  | cons c n ih =>
    intro hall fuel tail acc hstop hlen
    simp only [List.all_cons, Bool.and_eq_true, Bool.or_eq_true, beq_iff_eq] at hall
    have hc : nameChar c = true := by
      rcases hall.1 with (h | rfl) | h
      · exact nameChar_of_nameStart (nameStart_of_letter h)
      · decide
      · exact nameChar_of_digit h
    cases fuel with
    | zero => omega
    | succ fuel =>
      simp only [List.cons_append, List.length_cons] at hlen ⊢
      rw [parseNameF_raw fuel c _ acc hc, ih hall.2 fuel tail (c :: acc) hstop (by omega)]
      simp

theorem parseIdentifier_of_parseName {h : Char} {t n r : Str} (hh : h = '\\' ∨ nameStart h = true)
    (hp : parseName (h :: t) = .ok (n, r)) : parseIdentifier (h :: t) = .ok (n, r) := by
  have e1 : (h == '-') = false := by
    rcases hh with rfl | hh
    · decide
    · simpa using ne_of_pred hh (by decide)
  have e2 : (!(nameStart h || h == '\\')) = false := by
    rcases hh with rfl | hh
    · decide
    · simp [hh]
  simp only [parseIdentifier, List.takeWhile_cons, List.dropWhile_cons, e1, Bool.false_eq_true, ↓reduceIte,
    e2, hp, List.nil_append]

theorem parseIdentifier_dash {t n r : Str} (hp : parseIdentifier t = .ok (n, r)) :
    parseIdentifier ('-' :: t) = .ok ('-' :: n, r) := by
  simp only [parseIdentifier, List.takeWhile_cons, List.dropWhile_cons, beq_self_eq_true, ↓reduceIte] at hp ⊢
  generalize List.dropWhile (· == '-') t = d at hp ⊢
  cases d with
  | nil => cases hp
  | cons c r' =>
    simp only at hp ⊢
    split at hp
    · cases hp
    · rename_i hc
      rw [if_neg hc]
      split at hp
      · rename_i n' r'' hn
        simp only [Except.ok.injEq, Prod.mk.injEq] at hp
        simp only [List.cons_append, hp.1, hp.2]
      · cases hp

theorem escapeChar_head (first ad alone : Bool) (c : Char) (h0 : c.toNat ≠ 0) (hd : (first || ad) = true) :
    ∃ h t, escapeChar first ad alone c = h :: t ∧
      (h = '\\' ∨ nameStart h = true ∨ (c = '-' ∧ first = true ∧ alone = false ∧ h = '-' ∧ t = [])) := by
  rcases escapeChar_cases first ad alone c h0 with ⟨h, _⟩ | ⟨h, _⟩ | ⟨h, hc, hf, ha⟩ | ⟨h, _, _, hs⟩
  · exact ⟨_, _, h, Or.inl rfl⟩
  · exact ⟨_, _, h, Or.inl rfl⟩
  · exact ⟨_, _, h, Or.inr (Or.inr ⟨hc, hf, ha, rfl, rfl⟩)⟩
  · exact ⟨_, _, h, Or.inr (Or.inl (hs hd))⟩

theorem stopsName_not_dash : ∀ {tail : Str}, StopsName tail →
    tail.takeWhile (· == '-') = [] ∧ tail.dropWhile (· == '-') = tail := by
  intro tail h
  cases tail with
  | nil => simp
  | cons c t =>
    have : c ≠ '-' := by intro hc; subst hc; exact absurd h.1 (by decide)
    simp [this]

theorem parseIdentifier_escape (name tail : Str) (hok : identOk name = true) (hstop : StopsName tail) :
    parseIdentifier (escape name ++ tail) = .ok (name, tail) := by
  -- a text that starts with `\` or a name-start character is an identifier as soon as it is a name;
  -- a raw leading hyphen is peeled off and the same said of the second character
  have hp := parseName_escape name tail hok hstop
  cases name with
  | nil => simp [identOk] at hok
  | cons c cs =>
    obtain ⟨h0, hcs⟩ := identOk_cons hok
    obtain ⟨h, t, hesc, hh⟩ := escapeChar_head true false cs.isEmpty c h0 rfl
    simp only [escape, hesc, List.cons_append] at hp ⊢
    rcases hh with hh | hh | ⟨hc, _, hal, rfl, rfl⟩
    · exact parseIdentifier_of_parseName (Or.inl hh) hp
    · exact parseIdentifier_of_parseName (Or.inr hh) hp
    · -- a leading hyphen, written raw, followed by at least one more character
      subst hc
      cases cs with
      | nil => cases hal
      | cons c2 cs2 =>
        have h2 := hcs c2 (List.mem_cons_self ..)
        obtain ⟨h', t', hesc2, hh2⟩ := escapeChar_head false true false c2 h2 rfl
        have hrest : parseName (escapeTail true (c2 :: cs2) ++ tail) = .ok (c2 :: cs2, tail) := by
          rw [parseName, parseNameF_escapeTail (c2 :: cs2) hcs true _ tail [] hstop (by omega)]
          simp [finishName]
        simp only [escapeTail, hesc2, List.cons_append] at hrest
        simp only [escapeTail, hesc2, List.cons_append, List.nil_append, beq_self_eq_true]
        refine parseIdentifier_dash (parseIdentifier_of_parseName ?_ hrest)
        rcases hh2 with hh2 | hh2 | ⟨_, hf, _⟩
        · exact Or.inl hh2
        · exact Or.inr hh2
        · cases hf

theorem parseIdentifier_plain (n tail : Str) (hn : plainName n = true) (hstop : StopsName tail) :
    parseIdentifier (n ++ tail) = .ok (n, tail) := by
  cases n with
  | nil => simp [plainName] at hn
  | cons c n' =>
    simp only [plainName, Bool.and_eq_true] at hn
    refine parseIdentifier_of_parseName (Or.inr (nameStart_of_letter hn.1)) ?_
    show parseName ((c :: n') ++ tail) = _
    rw [parseName, parseNameF_plain (c :: n') hn.2 _ tail [] hstop (by omega)]
    simp [finishName]

theorem parseStringF_bs (q : Char) (fuel : Nat) (d : Char) (t acc : Str)
    (hd : (d == '\r' || d == '\n' || d == '\x0c') = false) :
    parseStringF q (fuel + 1) ('\\' :: d :: t) acc =
      match parseEscape ('\\' :: d :: t) with
      | .ok (v, r) => parseStringF q fuel r (v :: acc)
      | .error e => .error e := by
  simp only [Bool.or_eq_false_iff, beq_eq_false_iff_ne, ne_eq] at hd
  -- the equation of the general backslash case; the four before it are escaped line endings
  rw [parseStringF]
  · rfl
  · exact fun _ h => hd.1.1 (List.cons.inj h).1
  · exact fun _ h => hd.1.1 (List.cons.inj h).1
  · exact fun _ h => hd.1.2 (List.cons.inj h).1
  · exact fun _ h => hd.2 (List.cons.inj h).1

theorem parseStringF_raw (q : Char) (fuel : Nat) (c : Char) (t acc : Str) (hc : c ≠ '\\') :
    parseStringF q (fuel + 1) (c :: t) acc =
      if c == q then .ok (acc.reverse, t)
      else if c == '\r' || c == '\n' || c == '\x0c' then .error .malformed
      else parseStringF q fuel t (c :: acc) := by
  rw [parseStringF]
  all_goals (intros; exact absurd ‹c = '\\'› hc)

theorem escapeStringChar_cases (c : Char) (h0 : c.toNat ≠ 0) :
    (escapeStringChar c = '\\' :: hexDigits c.toNat ++ [' '] ∧ c.toNat < 128) ∨
    (escapeStringChar c = ['\\', c] ∧ (c = '"' ∨ c = '\\')) ∨
    (escapeStringChar c = [c] ∧ c ≠ '"' ∧ c ≠ '\\' ∧ ¬ c.toNat < 0x20) := by
  unfold escapeStringChar
  rw [if_neg h0]
  split
  · rename_i hc
    simp only [Bool.or_eq_true, decide_eq_true_eq] at hc
    exact Or.inl ⟨rfl, by omega⟩
  · rename_i hc
    simp only [Bool.or_eq_true, decide_eq_true_eq, not_or] at hc
    split
    · rename_i hq
      exact Or.inr (Or.inl ⟨rfl, by simpa using hq⟩)
    · rename_i hq
      simp only [Bool.or_eq_true, beq_iff_eq, not_or] at hq
      exact Or.inr (Or.inr ⟨rfl, hq.1, hq.2, hc.1⟩)

theorem escapeStringChar_pos (c : Char) (h0 : c.toNat ≠ 0) : 0 < (escapeStringChar c).length := by
  rcases escapeStringChar_cases c h0 with h | h | h <;> simp [h.1]

theorem parseStringF_step (c : Char) (h0 : c.toNat ≠ 0) (fuel : Nat) (s acc : Str) :
    parseStringF '"' (fuel + 1) (escapeStringChar c ++ s) acc = parseStringF '"' fuel s (c :: acc) := by
  rcases escapeStringChar_cases c h0 with ⟨h, hlt⟩ | ⟨h, hq⟩ | ⟨h, hq, hb, hc⟩
  · have hesc := parseEscape_hex c hlt h0 s
    have hf := hexDigits_readback_ascii c.toNat hlt h0
    simp only [Bool.and_eq_true, decide_eq_true_eq] at hf
    simp only [h, List.cons_append, List.append_assoc, List.nil_append]
    generalize hexDigits c.toNat = ds at *
    cases ds with
    | nil => exact absurd hf.2.symm h0
    | cons d ds' =>
      simp only [List.all_cons, Bool.and_eq_true] at hf
      simp only [List.cons_append] at hesc ⊢
      rw [parseStringF_bs '"' fuel d _ acc (not_newline_of_hex hf.1.1.1), hesc]
  · have hh : isHex c = false := by rcases hq with rfl | rfl <;> decide
    have hn : (c == '\r' || c == '\n' || c == '\x0c') = false := by rcases hq with rfl | rfl <;> decide
    rw [h]
    simp only [List.cons_append, List.nil_append]
    rw [parseStringF_bs '"' fuel c s acc hn, parseEscape_literal c hh hn s]
  · have e1 : (c == '"') = false := by simpa using hq
    have e2 : (c == '\r' || c == '\n' || c == '\x0c') = false := by
      simp only [Bool.or_eq_false_iff, beq_eq_false_iff_ne, ne_eq]
      refine ⟨⟨?_, ?_⟩, ?_⟩ <;> rintro rfl <;> exact hc (by decide)
    rw [h]
    simp only [List.cons_append, List.nil_append]
    rw [parseStringF_raw '"' fuel c s acc hb]
    simp only [e1, Bool.false_eq_true, ↓reduceIte, e2]

theorem parseStringF_escapeString : ∀ (v : Str), (∀ c ∈ v, c.toNat ≠ 0) →
    ∀ (fuel : Nat) (tail acc : Str), (escapeString v ++ '"' :: tail).length < fuel →
      parseStringF '"' fuel (escapeString v ++ '"' :: tail) acc = .ok (acc.reverse ++ v, tail) := by
  intro v
  induction v with
  | nil =>
    intro _ fuel tail acc hlen
    cases fuel with
    | zero => omega
    | succ fuel =>
      simp only [escapeString, List.flatMap_nil, List.nil_append]
      rw [parseStringF_raw '"' fuel '"' tail acc (by decide)]
      simp
  | cons c v ih =>
    intro hnz fuel tail acc hlen
    have h0 := hnz c (List.mem_cons_self ..)
    cases fuel with
    | zero => omega
    | succ fuel =>
      have hl := escapeStringChar_pos c h0
      simp only [escapeString, List.flatMap_cons, List.append_assoc, List.length_append] at hlen ⊢
      have := ih (fun x hx => hnz x (List.mem_cons_of_mem _ hx)) fuel tail (c :: acc)
        (by simp only [escapeString, List.length_append]; omega)
      simp only [escapeString] at this
      rw [parseStringF_step c h0, this]
      simp

theorem parseString_escapeString (v tail : Str) (hok : valuePrintable v = true) :
    parseString ('"' :: (escapeString v ++ '"' :: tail)) = .ok (v, tail) := by
  simp only [valuePrintable, List.all_eq_true, bne_iff_ne, ne_eq] at hok
  have key := parseStringF_escapeString v hok ((escapeString v ++ '"' :: tail).length + 1) tail [] (by omega)
  generalize hes : escapeString v ++ '"' :: tail = body at key
  cases body with
  | nil => simp at hes
  | cons c rest =>
    simp only [List.length_cons] at key
    simpa [parseString] using key

theorem skipWs_nil : skipWs [] = [] := rfl

theorem skipWs_stop (c : Char) (t : Str) (h1 : isAsciiWs c = false) (h2 : c ≠ '/') :
    skipWs (c :: t) = c :: t := by
  rw [skipWs, List.length_cons, skipWsF]
  · rw [h1]; rfl
  · exact fun _ h _ => h2 h

theorem skipWs_space (t : Str) : skipWs (' ' :: t) = skipWs t := by
  rw [skipWs, List.length_cons, skipWsF]
  · rw [if_pos (by decide)]; rfl
  · exact fun _ h _ => absurd h (by decide)

theorem digitChar_isDigit_val : ∀ d, d < 10 →
    (isDigit (Char.ofNat (48 + d)) && decide ((Char.ofNat (48 + d)).toNat - 48 = d)) = true := by
  decide

theorem natDigitsF_spec : ∀ (fuel n : Nat) (acc : Str), n < fuel →
    ∃ ds, natDigitsF fuel n acc = ds ++ acc ∧ ds ≠ [] ∧ ds.all isDigit = true ∧
      ∀ v0, ds.foldl (fun v c => v * 10 + (c.toNat - 48)) v0 = v0 * 10 ^ ds.length + n := by
  intro fuel
  induction fuel with
  | zero => intro n acc h; omega
  | succ fuel ih =>
    intro n acc hn
    unfold natDigitsF
    simp only
    have hd := digitChar_isDigit_val (n % 10) (Nat.mod_lt _ (by omega))
    simp only [Bool.and_eq_true, decide_eq_true_eq] at hd
    have hdm := Nat.div_add_mod n 10
    split
    · rename_i h0
      refine ⟨[Char.ofNat (48 + n % 10)], rfl, by simp, by simp [hd.1], ?_⟩
      intro v0
      simp only [List.foldl_cons, List.foldl_nil, hd.2, List.length_singleton, Nat.pow_one]
      omega
    · rename_i h0
      obtain ⟨ds, h1, h2, h3, h4⟩ := ih (n / 10) (Char.ofNat (48 + n % 10) :: acc) (by omega)
      refine ⟨ds ++ [Char.ofNat (48 + n % 10)], by rw [h1]; simp, by simp, by simp [h3, hd.1], ?_⟩
      intro v0
      simp only [List.foldl_append, List.foldl_cons, List.foldl_nil, h4, hd.2,
        List.length_append, List.length_singleton, Nat.pow_succ]
      rw [Nat.add_mul, Nat.mul_assoc]
      omega

theorem natDigits_spec (n : Nat) :
    natDigits n ≠ [] ∧ (natDigits n).all isDigit = true ∧
      (natDigits n).foldl (fun v c => v * 10 + (c.toNat - 48)) 0 = n := by
  obtain ⟨ds, h1, h2, h3, h4⟩ := natDigitsF_spec (n + 1) n [] (by omega)
  unfold natDigits
  rw [h1]
  simp only [List.append_nil]
  exact ⟨h2, h3, by rw [h4]; simp⟩

theorem takeWhile_prefix (p : Char → Bool) : ∀ (ds tail : Str), ds.all p = true →
    (∀ c t, tail = c :: t → p c = false) →
    (ds ++ tail).takeWhile p = ds ∧ (ds ++ tail).dropWhile p = tail := by
  intro ds
  induction ds with
  | nil =>
    intro tail _ ht
    cases tail with
    | nil => simp
    | cons c t => simp [ht c t rfl]
  | cons d ds ih =>
    intro tail hall ht
    simp only [List.all_cons, Bool.and_eq_true] at hall
    have := ih tail hall.2 ht
    simp [hall.1, this.1, this.2]

theorem parseInteger_natDigits (n : Nat) (c : Char) (tail : Str) (hn : n ≤ 9223372036854775807)
    (hc : isDigit c = false) : parseInteger (natDigits n ++ c :: tail) = .ok (n, c :: tail) := by
  obtain ⟨h1, h2, h3⟩ := natDigits_spec n
  obtain ⟨t1, t2⟩ := takeWhile_prefix isDigit (natDigits n) (c :: tail) h2
    (by intro c' t' h; rw [← (List.cons.inj h).1]; exact hc)
  have : (natDigits n).isEmpty = false := by simpa using h1
  simp only [parseInteger, t1, t2, this, Bool.false_eq_true, ↓reduceIte, h3]
  rw [if_neg (by omega)]

theorem isDigit_ne_nthChars (c : Char) (h : isDigit c = true) :
    isAsciiWs c = false ∧ c ≠ '/' ∧ c ≠ '-' ∧ c ≠ '+' ∧ c ≠ 'n' ∧ c ≠ 'N' := by
  refine ⟨?_, ne_of_pred h (by decide), ne_of_pred h (by decide), ne_of_pred h (by decide),
    ne_of_pred h (by decide), ne_of_pred h (by decide)⟩
  simp only [isAsciiWs, Bool.or_eq_false_iff, beq_eq_false_iff_ne]
  exact ⟨⟨⟨⟨ne_of_pred h (by decide), ne_of_pred h (by decide)⟩, ne_of_pred h (by decide)⟩,
    ne_of_pred h (by decide)⟩, ne_of_pred h (by decide)⟩

theorem natDigits_cons (n : Nat) : ∃ d ds, natDigits n = d :: ds ∧ isDigit d = true := by
  obtain ⟨h1, h2, _⟩ := natDigits_spec n
  cases h : natDigits n with
  | nil => exact absurd h h1
  | cons d ds =>
    rw [h] at h2
    simp only [List.all_cons, Bool.and_eq_true] at h2
    exact ⟨d, ds, rfl, h2.1⟩

theorem skipWs_natDigits (n : Nat) (t : Str) : skipWs (natDigits n ++ t) = natDigits n ++ t := by
  obtain ⟨d, ds, hd, hdig⟩ := natDigits_cons n
  obtain ⟨p1, p2, _⟩ := isDigit_ne_nthChars d hdig
  rw [hd, List.cons_append, skipWs_stop d _ p1 p2]

/-- the `+b` / `-b` part as `nthPseudoClassSelector.String` writes it -/
def printB (b : Int) : Str := if b < 0 then intDigits b else '+' :: intDigits b

theorem nthReadN_print (a b : Int) (hb : intOk b = true) (tail : Str) :
    nthReadN a (printB b ++ (')' :: tail)) = .ok ((a, b), ')' :: tail) := by
  simp only [intOk, decide_eq_true_eq] at hb
  have hpi := parseInteger_natDigits b.natAbs ')' tail hb (by decide)
  unfold nthReadN printB intDigits
  by_cases hneg : b < 0
  · simp only [hneg, ↓reduceIte, List.cons_append]
    rw [skipWs_stop '-' _ (by decide) (by decide)]
    simp only [skipWs_natDigits, hpi, Except.ok.injEq, Prod.mk.injEq, and_true, true_and]
    omega
  · simp only [hneg, ↓reduceIte, List.cons_append]
    rw [skipWs_stop '+' _ (by decide) (by decide)]
    simp only [skipWs_natDigits, hpi, Except.ok.injEq, Prod.mk.injEq, and_true, true_and]
    omega

theorem nthSignedA_print (neg : Bool) (m : Nat) (b : Int) (hm : m ≤ 9223372036854775807)
    (hb : intOk b = true) (tail : Str) :
    nthSignedA neg (natDigits m ++ ('n' :: (printB b ++ (')' :: tail)))) =
      .ok (((if neg then -(m : Int) else m), b), ')' :: tail) := by
  obtain ⟨d, ds, hd, hdig⟩ := natDigits_cons m
  have hpi := parseInteger_natDigits m 'n' (printB b ++ (')' :: tail)) hm (by decide)
  unfold nthSignedA
  rw [hd] at hpi ⊢
  simp only [List.cons_append] at hpi ⊢
  simp only [hdig, ↓reduceIte, hpi]
  exact nthReadN_print _ b hb tail

theorem parseNth_print (a b : Int) (ha : intOk a = true) (hb : intOk b = true) (tail : Str) :
    parseNth (intDigits a ++ ('n' :: (printB b ++ (')' :: tail)))) = .ok ((a, b), ')' :: tail) := by
  have ha' : a.natAbs ≤ 9223372036854775807 := by simpa [intOk] using ha
  unfold parseNth intDigits
  by_cases hneg : a < 0
  · simp only [hneg, ↓reduceIte, List.cons_append, beq_self_eq_true]
    rw [nthSignedA_print true a.natAbs b ha' hb tail]
    simp only [↓reduceIte, Except.ok.injEq, Prod.mk.injEq, and_true]
    omega
  · obtain ⟨d, ds, hd, hdig⟩ := natDigits_cons a.natAbs
    obtain ⟨_, _, p3, p4, _, _⟩ := isDigit_ne_nthChars d hdig
    have := nthSignedA_print false a.natAbs b ha' hb tail
    simp only [hneg, ↓reduceIte]
    rw [hd] at this ⊢
    simp only [List.cons_append] at this ⊢
    have e1 : (d == '-') = false := by simpa using p3
    have e2 : (d == '+') = false := by simpa using p4
    simp only [e1, Bool.false_eq_true, ↓reduceIte, e2, hdig, this, Except.ok.injEq, Prod.mk.injEq, and_true]
    omega

end WR.C05.Lemmas
