/-
  C05 — specificity: the model's folds `specMax` / `specSum` are rewritten as `maxLoop` / a sum over
  the list of the arguments' weights, and `Specificity.less` as the lexicographic order `SpecLe`.
-/
import WR.C05.Spec
namespace WR.C05.Lemmas
open WR.C05 WR.C05.Spec

theorem lexStep (x y : Nat) (rest : Bool) :
    (if x < y then true else if x > y then false else rest) = true ↔ x < y ∨ (x = y ∧ rest = true) := by
  by_cases h1 : x < y
  · simp [h1]
  · by_cases h2 : x > y
    · simp only [h1, h2, ↓reduceIte, false_or, Bool.false_eq_true, false_iff, not_and]; omega
    · simp only [h1, h2, ↓reduceIte, false_or, iff_and_self]; omega

theorem less_iff (s o : Specificity) :
    s.less o = true ↔ (s.a < o.a ∨ (s.a = o.a ∧ (s.b < o.b ∨ (s.b = o.b ∧ s.c < o.c)))) := by
  unfold Specificity.less
  rw [lexStep, lexStep, lexStep]
  simp

theorem specLe_of_less {s o : Specificity} (h : s.less o = true) : SpecLe s o := by
  have := (less_iff s o).1 h
  unfold SpecLe; omega

theorem specLe_of_not_less {s o : Specificity} (h : s.less o = false) : SpecLe o s := by
  have : ¬ _ := fun h' => by rw [(less_iff s o).2 h'] at h; exact Bool.noConfusion h
  unfold SpecLe; omega

theorem specLe_refl (s : Specificity) : SpecLe s s := by unfold SpecLe; omega

theorem specLe_trans {x y z : Specificity} (h1 : SpecLe x y) (h2 : SpecLe y z) : SpecLe x z := by
  unfold SpecLe at *; omega

theorem specLe_zero {x : Specificity} (h : SpecLe x .zero) : x = .zero := by
  obtain ⟨a, b, c⟩ := x
  simp only [SpecLe, Specificity.zero] at h
  simp only [Specificity.zero, Specificity.mk.injEq]; omega

/-- the loop of `relativePseudoClassSelector.Specificity` on the list of the arguments' weights -/
def maxLoop : List Specificity → Specificity → Specificity
  | [], m => m
  | n :: ns, m => maxLoop ns (if m.less n then n else m)

theorem specMax_eq (ss : List Sel) (m : Specificity) :
    specMax ss m = maxLoop (ss.map specificity) m := by
  induction ss generalizing m with
  | nil => simp [specMax, maxLoop]
  | cons s ss ih => simp [specMax, maxLoop, ih]

theorem maxLoop_spec (xs : List Specificity) :
    ∀ m, (maxLoop xs m = m ∨ maxLoop xs m ∈ xs) ∧ SpecLe m (maxLoop xs m) ∧
      ∀ x ∈ xs, SpecLe x (maxLoop xs m) := by
  induction xs with
  | nil => intro m; simp [maxLoop, specLe_refl]
  | cons n ns ih =>
    intro m
    simp only [maxLoop]
    cases h : m.less n
    · simp only [Bool.false_eq_true, ↓reduceIte]
      obtain ⟨h1, h2, h3⟩ := ih m
      refine ⟨?_, h2, ?_⟩
      · rcases h1 with h1 | h1
        · exact Or.inl h1
        · exact Or.inr (List.mem_cons_of_mem _ h1)
      · intro x hx
        rcases List.mem_cons.1 hx with rfl | hx
        · exact specLe_trans (specLe_of_not_less h) h2
        · exact h3 x hx
    · simp only [↓reduceIte]
      obtain ⟨h1, h2, h3⟩ := ih n
      refine ⟨?_, specLe_trans (specLe_of_less h) h2, ?_⟩
      · rcases h1 with h1 | h1
        · exact Or.inr (by rw [h1]; simp)
        · exact Or.inr (List.mem_cons_of_mem _ h1)
      · intro x hx
        rcases List.mem_cons.1 hx with rfl | hx
        · exact h2
        · exact h3 x hx

theorem maxLoop_mostSpecific (xs : List Specificity) : IsMostSpecific xs (maxLoop xs .zero) := by
  obtain ⟨h1, _, h3⟩ := maxLoop_spec xs .zero
  refine ⟨?_, h3⟩
  rcases h1 with h1 | h1
  · cases xs with
    | nil => exact Or.inr ⟨rfl, h1⟩
    | cons x xs =>
      left
      have := h3 x (by simp)
      rw [h1] at this
      rw [h1, ← specLe_zero this]; simp
  · exact Or.inl h1

theorem spec_add_assoc (x y z : Specificity) : (x.add y).add z = x.add (y.add z) := by
  simp only [Specificity.add, Specificity.mk.injEq]; omega

theorem spec_zero_add (x : Specificity) : Specificity.zero.add x = x := by
  simp [Specificity.add, Specificity.zero]

theorem spec_add_zero (x : Specificity) : x.add .zero = x := by
  simp [Specificity.add, Specificity.zero]

theorem specSum_eq (ss : List Sel) (out : Specificity) :
    specSum ss out = out.add ((ss.map specificity).foldr Specificity.add .zero) := by
  induction ss generalizing out with
  | nil => simp [specSum, spec_add_zero]
  | cons s ss ih => simp [specSum, ih, spec_add_assoc]

end WR.C05.Lemmas
