/-
  C12 — helper lemmas: the page-type machine of `pagesLoop`, counters, :nth(), the cascade fold.
-/
import WR.C12.Model
namespace WR.C12
open WR.C02

variable {γ : Type}

/-- consecutive pages alternate sides and are numbered consecutively -/
def Alt : Bool → Nat → List Page → Prop
  | _, _, [] => True
  | r, i, p :: ps => p.info.right = r ∧ p.info.index = i ∧ Alt (!r) (i+1) ps

/-- the first page is a content page of side `w`, or it is blank and the next one, if any, is such a page -/
def SideHonoured (w : Bool) : List Page → Prop
  | [] => True
  | p :: rest =>
    (p.info.blank = false ∧ p.info.right = w) ∨
    (p.info.blank = true ∧ p.frag = none ∧
      match rest with
      | [] => True
      | q :: _ => q.info.blank = false ∧ q.info.right = w)

/-- Induction over the pages the loop makes: none (fuel out, or the root is cancelled), a blank page,
    a content page. -/
theorem pagesLoop_induct (P : PageInfo → Oracle γ × γ) (ltr : Bool) (root : Box)
    {motive : Nat → PState → List Page → Prop} (nil : ∀ i s, motive i s [])
    (blank : ∀ i s rest, (pageInfo ltr i s).blank = true → motive (i+1) { s with right := !s.right } rest →
      motive i s ({ info := pageInfo ltr i s, frag := none } :: rest))
    (content : ∀ i s f s' rest, (pageInfo ltr i s).blank = false → s'.right = !s.right →
      motive (i+1) s' rest → motive i s ({ info := pageInfo ltr i s, frag := some f } :: rest)) :
    ∀ (fuel index : Nat) (s : PState), motive index s (pagesLoop P ltr root fuel index s).pages
  | 0, _, _ => nil _ _
  | fuel+1, index, s => by
    rw [pagesLoop]
    dsimp only
    split
    · exact blank _ _ _ ‹_› (pagesLoop_induct P ltr root nil blank content fuel _ _)
    · have hb := eq_false_of_ne_true ‹_›
      split
      · exact nil _ _
      · split
        · exact content _ _ _ { s with right := !s.right } [] hb rfl (nil _ _)
        · exact content _ _ _ _ _ hb rfl (pagesLoop_induct P ltr root nil blank content fuel _ _)

theorem pagesLoop_alt (P : PageInfo → Oracle γ × γ) (ltr : Bool) (root : Box) (fuel index : Nat) (s : PState) :
    Alt s.right index (pagesLoop P ltr root fuel index s).pages :=
  pagesLoop_induct P ltr root (motive := fun i s ps => Alt s.right i ps) (fun _ _ => trivial)
    (fun _ _ _ _ ih => ⟨rfl, rfl, ih⟩) (fun _ _ _ _ _ _ hr ih => ⟨rfl, rfl, hr ▸ ih⟩) fuel index s

theorem ite_parity_succ (k : Nat) (r : Bool) :
    (if (k + 1) % 2 = 0 then r else !r) = (if k % 2 = 0 then !r else !!r) := by
  rw [Nat.add_mod k 1 2]
  rcases Nat.mod_two_eq_zero_or_one k with hk | hk <;> rw [hk]
  · rfl
  · exact (Bool.not_not r).symm

theorem alt_index : ∀ (r : Bool) (i : Nat) (ps : List Page), Alt r i ps →
    ∀ k (h : k < ps.length), ps[k].info.index = i + k ∧ ps[k].info.right = (if k % 2 = 0 then r else !r)
  | _, _, [], _, k, h => absurd h (Nat.not_lt_zero k)
  | r, i, p :: ps, ⟨h1, h2, h3⟩, 0, _ => ⟨h2, h1⟩
  | r, i, p :: ps, ⟨h1, h2, h3⟩, k + 1, h => by
    have := alt_index (!r) (i+1) ps h3 k (Nat.lt_of_succ_lt_succ h)
    rw [List.getElem_cons_succ, ite_parity_succ, this.1, this.2]
    exact ⟨by omega, rfl⟩

theorem pagesLoop_blank (P : PageInfo → Oracle γ × γ) (ltr : Bool) (root : Box) (fuel index : Nat) (s : PState) :
    ∀ p ∈ (pagesLoop P ltr root fuel index s).pages, (p.info.blank = true ↔ p.frag = none) :=
  pagesLoop_induct P ltr root (motive := fun _ _ ps => ∀ p ∈ ps, (p.info.blank = true ↔ p.frag = none))
    (fun _ _ => nofun)
    (fun _ _ _ hb ih => List.forall_mem_cons.2 ⟨⟨fun _ => rfl, fun _ => hb⟩, ih⟩)
    (fun _ _ _ _ _ hb _ ih => List.forall_mem_cons.2
      ⟨⟨fun h => absurd (hb.symm.trans h) Bool.false_ne_true, nofun⟩, ih⟩) fuel index s

theorem pageInfo_blank (ltr : Bool) (index : Nat) (s : PState) (w : Bool) (hw : sideOf ltr s.nb.brk = some w) :
    (pageInfo ltr index s).blank = (w != s.right) := by
  simp only [pageInfo, hw]

/-- Proved together: the clause about the page after a blank one needs the type of the first page of the rest. -/
theorem pagesLoop_head_sideHonoured (P : PageInfo → Oracle γ × γ) (ltr : Bool) (root : Box) (fuel index : Nat) (s : PState) :
    (∀ q rest, (pagesLoop P ltr root fuel index s).pages = q :: rest → q.info = pageInfo ltr index s) ∧
    ∀ w, sideOf ltr s.nb.brk = some w → SideHonoured w (pagesLoop P ltr root fuel index s).pages := by
  refine pagesLoop_induct P ltr root (motive := fun i s ps =>
      (∀ q rest, ps = q :: rest → q.info = pageInfo ltr i s) ∧
      ∀ w, sideOf ltr s.nb.brk = some w → SideHonoured w ps)
    (fun _ _ => ⟨nofun, fun _ _ => trivial⟩) ?_ ?_ fuel index s
  · intro i s rest hb ⟨hhead, _⟩
    refine ⟨fun q _ h => by cases h; rfl, fun w hw => Or.inr ⟨hb, rfl, ?_⟩⟩
    cases rest with
    | nil => trivial
    | cons q _ =>
      -- the side asked for is not this page's, so it is the next page's, which is therefore not blank
      rw [pageInfo_blank ltr i s w hw] at hb
      show q.info.blank = false ∧ q.info.right = w
      rw [hhead q _ rfl, pageInfo_blank ltr (i+1) { s with right := !s.right } w hw]
      exact (by decide : ∀ w r : Bool, (w != r) = true → (w != !r) = false ∧ (!r) = w) w s.right hb
  · intro i s f s' rest hb _ _
    refine ⟨fun q _ h => by cases h; rfl, fun w hw => Or.inl ⟨hb, ?_⟩⟩
    rw [pageInfo_blank ltr i s w hw] at hb
    exact (by decide : ∀ w r : Bool, (w != r) = false → r = w) w s.right hb

/-! ### counters -/

theorem runCounters_default : ∀ (ops : List CounterOps) (v : Int), (∀ o ∈ ops, o = {}) →
    ∀ k (h : k < (runCounters ops v).length), (runCounters ops v)[k] = v + k + 1
  | [], _, _, k, h => absurd h (Nat.not_lt_zero k)
  | o :: os, v, hall, k, h => by
    obtain rfl : o = {} := hall o List.mem_cons_self
    have hstep : counterStep {} v = v + 1 := rfl
    cases k with
    | zero => simp only [runCounters, hstep, List.getElem_cons_zero, Int.natCast_zero, Int.add_zero]
    | succ k =>
      have := runCounters_default os (v + 1) (fun o' ho' => hall o' (List.mem_cons_of_mem _ ho')) k
        (Nat.lt_of_succ_lt_succ h)
      simp only [runCounters, hstep, List.getElem_cons_succ, this, Int.natCast_succ, ← Int.add_assoc,
        Int.add_right_comm v 1]

theorem runCounters_length : ∀ (ops : List CounterOps) (v : Int), (runCounters ops v).length = ops.length
  | [], _ => rfl
  | _ :: os, _ => congrArg (· + 1) (runCounters_length os _)

/-! ### :nth() -/

theorem tdiv_nonneg_and_tmod_zero_iff (x a : Int) (ha : a ≠ 0) :
    (x.tdiv a ≥ 0 ∧ x.tmod a = 0) ↔ ∃ n : Nat, x = a * n := by
  constructor
  · rintro ⟨h1, h2⟩
    have := Int.mul_tdiv_add_tmod x a
    rw [h2, Int.add_zero] at this
    exact ⟨(x.tdiv a).toNat, by rw [Int.toNat_of_nonneg h1, this]⟩
  · rintro ⟨n, rfl⟩
    rw [Int.mul_tdiv_cancel_left _ ha, Int.mul_tmod_right]
    exact ⟨Int.natCast_nonneg n, rfl⟩

/-! ### the cascade only picks declarations of matching rules -/

theorem cascadeStep_cases (prop : PProp) (acc : Option (Weight × Len)) (wd : Weight × Decl) :
    cascadeStep prop acc wd = acc ∨
      (wd.2.prop = prop ∧ cascadeStep prop acc wd = some (wd.1, wd.2.val)) := by
  unfold cascadeStep
  split
  · split
    · exact Or.inr ⟨‹_›, rfl⟩
    · split
      · exact Or.inr ⟨‹_›, rfl⟩
      · exact Or.inl rfl
  · exact Or.inl rfl

theorem cascade_fold_mem (prop : PProp) : ∀ (l : List (Weight × Decl)) (acc : Option (Weight × Len)) (w : Weight) (v : Len),
    l.foldl (cascadeStep prop) acc = some (w, v) →
    acc = some (w, v) ∨ ∃ wd ∈ l, wd.2.prop = prop ∧ wd.2.val = v
  | [], _, _, _, h => Or.inl h
  | wd :: l, acc, w, v, h => by
    rcases cascade_fold_mem prop l _ w v h with h1 | ⟨wd', hm, hp⟩
    · rcases cascadeStep_cases prop acc wd with h2 | ⟨hp, h2⟩
      · exact Or.inl (h2 ▸ h1)
      · rw [h2] at h1; cases h1
        exact Or.inr ⟨wd, List.mem_cons_self, hp, rfl⟩
    · exact Or.inr ⟨wd', List.mem_cons_of_mem _ hm, hp⟩

end WR.C12
