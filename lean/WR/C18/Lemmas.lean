/-
  C18 — the path interpreter: the simulation `Sim` between the model's `addSeg` (loops, relative→absolute
  conversion) and the spec's `interp ∘ expand`, per command (`cmd_sim`) and along a command list (`cmds_sim`).
-/
import WR.C18.LemmasNumbers
namespace WR.C18.Lemmas
open WR.C18 WR.C18.Spec

def quadAt (p0 c p t : Rat) : Rat := (1 - t) ^ 2 * p0 + 2 * (1 - t) * t * c + t ^ 2 * p
def cubicAt (p0 c1 c2 p t : Rat) : Rat :=
  (1 - t) ^ 3 * p0 + 3 * (1 - t) ^ 2 * t * c1 + 3 * (1 - t) * t ^ 2 * c2 + t ^ 3 * p

theorem elevation_identity (p0 c p t : Rat) :
    cubicAt p0 (p0 + 2 / 3 * (c - p0)) (p + 2 / 3 * (c - p)) p t = quadAt p0 c p t := by
  unfold cubicAt quadAt
  grind

def absOrP (rel : Bool) (cur : Pt) (ps : List Pt) : List Pt := if rel then absPairs cur ps else ps
def absOrV (rel : Bool) (cur : Rat) (vs : List Rat) : List Rat := if rel then absVals cur vs else vs
def absOr4 (rel : Bool) (cur : Pt) (gs : List (Pt × Pt)) : List (Pt × Pt) := if rel then absQuads cur gs else gs
def absOr6 (rel : Bool) (cur : Pt) (gs : List (Pt × Pt × Pt)) : List (Pt × Pt × Pt) := if rel then absSixes cur gs else gs

theorem absOrP_cons (rel : Bool) (cur p : Pt) (r : List Pt) :
    absOrP rel cur (p :: r) = toAbs rel cur p :: absOrP rel (toAbs rel cur p) r := by cases rel <;> rfl
theorem absOrV_cons (rel : Bool) (cur v : Rat) (r : List Rat) :
    absOrV rel cur (v :: r) = (if rel then cur + v else v) :: absOrV rel (if rel then cur + v else v) r := by
  cases rel <;> rfl
theorem absOr4_cons (rel : Bool) (cur : Pt) (g : Pt × Pt) (r : List (Pt × Pt)) :
    absOr4 rel cur (g :: r) = (toAbs rel cur g.1, toAbs rel cur g.2) :: absOr4 rel (toAbs rel cur g.2) r := by
  cases rel <;> rfl
theorem absOr6_cons (rel : Bool) (cur : Pt) (g : Pt × Pt × Pt) (r : List (Pt × Pt × Pt)) :
    absOr6 rel cur (g :: r) =
      (toAbs rel cur g.1, toAbs rel cur g.2.1, toAbs rel cur g.2.2) :: absOr6 rel (toAbs rel cur g.2.2) r := by
  cases rel <;> rfl

theorem absOrP_nil (rel : Bool) (cur : Pt) : absOrP rel cur [] = [] := by cases rel <;> rfl
theorem absOrV_nil (rel : Bool) (cur : Rat) : absOrV rel cur [] = [] := by cases rel <;> rfl
theorem absOr4_nil (rel : Bool) (cur : Pt) : absOr4 rel cur [] = [] := by cases rel <;> rfl
theorem absOr6_nil (rel : Bool) (cur : Pt) : absOr6 rel cur [] = [] := by cases rel <;> rfl

abbrev plain (cur start : Pt) : SSt := { cur := cur, start := start }

theorem lines_interp (rel : Bool) : ∀ (ps : List Pt) (c st : Pt),
    interp (plain c st) (ps.map (.line rel)) =
      (plain (lastD c (absOrP rel c ps)) st, (absOrP rel c ps).map .lineTo) := by
  intro ps
  induction ps with
  | nil => intro c st; simp [interp, absOrP_nil, lastD]
  | cons p r ih =>
    intro c st
    simp [interp, step, ih, absOrP_cons, lastD_cons_eq]

theorem h_interp (rel : Bool) : ∀ (xs : List Rat) (c st : Pt),
    interp (plain c st) (xs.map (.h rel)) =
      (plain (lastD c.1 (absOrV rel c.1 xs), c.2) st, (absOrV rel c.1 xs).map fun v => .lineTo (v, c.2)) := by
  intro xs
  induction xs with
  | nil => intro c st; simp [interp, absOrV_nil, lastD]
  | cons x r ih =>
    intro c st
    simp [interp, step, ih, absOrV_cons, lastD_cons_eq]

theorem v_interp (rel : Bool) : ∀ (ys : List Rat) (c st : Pt),
    interp (plain c st) (ys.map (.v rel)) =
      (plain (c.1, lastD c.2 (absOrV rel c.2 ys)) st, (absOrV rel c.2 ys).map fun v => .lineTo (c.1, v)) := by
  intro ys
  induction ys with
  | nil => intro c st; simp [interp, absOrV_nil, lastD]
  | cons y r ih => intro c st; simp [interp, step, ih, absOrV_cons, lastD_cons_eq]

theorem cubic_interp (rel : Bool) : ∀ (gs : List (Pt × Pt × Pt)) (g : Pt × Pt × Pt) (s : SSt),
    interp s ((g :: gs).map fun g => .cubic rel g.1 g.2.1 g.2.2) =
      ({ cur := (lastD g (absOr6 rel s.cur (g :: gs))).2.2, start := s.start,
         cubicCtl := some (lastD g (absOr6 rel s.cur (g :: gs))).2.1 },
       (absOr6 rel s.cur (g :: gs)).map fun g => .cubicTo g.1 g.2.1 g.2.2) := by
  intro gs
  induction gs with
  | nil => intro g s; simp [interp, step, absOr6_cons, absOr6_nil, lastD]
  | cons g' r ih =>
    intro g s
    rw [List.map_cons, interp, ih]
    simp [step, absOr6_cons, lastD_cons_eq]

theorem quad_loop (rel : Bool) : ∀ (gs : List (Pt × Pt)) (g : Pt × Pt) (m : St) (s : SSt), m.cur = s.cur →
    quadLoop m (absOr4 rel m.cur (g :: gs)) =
      ({ m with cur := (lastD g (absOr4 rel m.cur (g :: gs))).2 }, (interp s ((g :: gs).map fun g => .quad rel g.1 g.2)).2) ∧
    (interp s ((g :: gs).map fun g => .quad rel g.1 g.2)).1 =
      { cur := (lastD g (absOr4 rel m.cur (g :: gs))).2, start := s.start,
        quadCtl := some (lastD g (absOr4 rel m.cur (g :: gs))).1 } := by
  intro gs
  induction gs with
  | nil => intro g m s h; simp [interp, step, quadLoop, absOr4_cons, absOr4_nil, lastD, h, quadraticToCubic, elevate]
  | cons g' r ih =>
    intro g m s h
    obtain ⟨h1, h2⟩ := ih g' { m with cur := toAbs rel m.cur g.2 } (step s (.quad rel g.1 g.2)).1 (by simp [step, h])
    rw [absOr4_cons, quadLoop, List.map_cons, interp, h1, h2]
    simp [step, absOr4_cons, lastD_cons_eq, h, quadraticToCubic, elevate]

/-- `o` is the model's `inPath` flag (a moveto has been seen); the spec has no field for it -/
structure Sim (m : St) (s : SSt) (o : Bool) : Prop where
  cur : m.cur = s.cur
  start : m.start = s.start
  inPath : m.inPath = o
  cube : s.cubicCtl = if isCubeKey m.lastKey then some m.ctl else none
  quad : s.quadCtl = if isQuadKey m.lastKey then some m.ctl else none

theorem mirror_eq (p r : Pt) : mirror p r = reflection p r := by
  simp only [mirror, reflection]
  refine Prod.ext ?_ ?_ <;> simp <;> grind

theorem smoothCube_loop (rel : Bool) (op : Char) (hc : isCubeKey op = true) (hq : isQuadKey op = false) :
    ∀ (gs : List (Pt × Pt)) (m : St) (s : SSt) (o : Bool), Sim m s o →
    (smoothCubeLoop op m (absOr4 rel m.cur gs)).2 = (interp s (gs.map fun g => .smooth rel g.1 g.2)).2 ∧
    Sim (smoothCubeLoop op m (absOr4 rel m.cur gs)).1 (interp s (gs.map fun g => .smooth rel g.1 g.2)).1 o ∧
    ((gs = [] → m.lastKey = op) → (smoothCubeLoop op m (absOr4 rel m.cur gs)).1.lastKey = op) := by
  intro gs
  induction gs with
  | nil => intro m s o h; rw [absOr4_nil]; exact ⟨rfl, h, fun hk => hk rfl⟩
  | cons g r ih =>
    intro m s o h
    obtain ⟨e, sm, lk⟩ := ih { m with ctl := toAbs rel m.cur g.1, cur := toAbs rel m.cur g.2, lastKey := op }
      (step s (.smooth rel g.1 g.2)).1 o
      ⟨by simp [step, h.cur], by simp [step, h.start], h.inPath, by simp [step, hc, h.cur], by simp [step, hq]⟩
    rw [absOr4_cons, smoothCubeLoop, List.map_cons, interp]
    refine ⟨?_, sm, fun _ => lk fun _ => rfl⟩
    rw [e]; cases hk : isCubeKey m.lastKey <;> simp [step, h.cube, h.cur, hk, mirror_eq]

theorem smoothQuad_loop (rel : Bool) (op : Char) (hc : isCubeKey op = false) (hq : isQuadKey op = true) :
    ∀ (ps : List Pt) (m : St) (s : SSt) (o : Bool), Sim m s o →
    (smoothQuadLoop op m (absOrP rel m.cur ps)).2 = (interp s (ps.map (.smoothQuad rel))).2 ∧
    Sim (smoothQuadLoop op m (absOrP rel m.cur ps)).1 (interp s (ps.map (.smoothQuad rel))).1 o ∧
    ((ps = [] → m.lastKey = op) → (smoothQuadLoop op m (absOrP rel m.cur ps)).1.lastKey = op) := by
  intro ps
  induction ps with
  | nil => intro m s o h; rw [absOrP_nil]; exact ⟨rfl, h, fun hk => hk rfl⟩
  | cons p r ih =>
    intro m s o h
    have hctl : (step s (.smoothQuad rel p)).1.quadCtl =
        some (if isQuadKey m.lastKey then reflection m.cur m.ctl else m.cur) := by
      cases hk : isQuadKey m.lastKey <;> simp [step, h.quad, h.cur, hk, mirror_eq]
    obtain ⟨e, sm, lk⟩ := ih { m with ctl := if isQuadKey m.lastKey then reflection m.cur m.ctl else m.cur,
                                      cur := toAbs rel m.cur p, lastKey := op }
      (step s (.smoothQuad rel p)).1 o
      ⟨by simp [step, h.cur], by simp [step, h.start], h.inPath, by simp [step, hc], by simp [hctl, hq]⟩
    rw [absOrP_cons, smoothQuadLoop, List.map_cons, interp]
    refine ⟨?_, sm, fun _ => lk fun _ => rfl⟩
    rw [e]; cases hk : isQuadKey m.lastKey <;> simp [step, h.quad, h.cur, hk, mirror_eq, quadraticToCubic, elevate]

def b2r (b : Bool) : Rat := if b then 1 else 0
def arcArgs (a : Arc) : ArcArgs := ⟨a.rx, a.ry, a.rot, b2r a.large, b2r a.sweep, a.p⟩

theorem b2r_ne (b : Bool) : (b2r b != 0) = b := by
  cases b
  · decide +kernel
  · decide +kernel

theorem step_arc (s : SSt) (rel : Bool) (a : Arc) :
    (step s (.arc rel a)).1 = plain (toAbs rel s.cur a.p) s.start := by
  simp only [step]
  split
  · rfl
  · split <;> rfl

theorem arcs_plain (rel : Bool) : ∀ (gs : List Arc) (g : Arc) (s : SSt),
    (interp s ((g :: gs).map (.arc rel))).1 = plain (interp s ((g :: gs).map (.arc rel))).1.cur s.start := by
  intro gs
  induction gs with
  | nil => intro g s; simp only [List.map_cons, List.map_nil, interp, step_arc]
  | cons a r ih => intro g s; rw [List.map_cons, interp, ih, step_arc]

theorem arc_loop (rel : Bool) : ∀ (gs : List Arc) (m : St) (s : SSt), m.cur = s.cur →
    arcLoop rel m (gs.map arcArgs) =
      ({ m with cur := (interp s (gs.map (.arc rel))).1.cur }, (interp s (gs.map (.arc rel))).2) := by
  intro gs
  induction gs with
  | nil => intro m s h; simp only [List.map_nil, arcLoop, interp, ← h]
  | cons a r ih =>
    intro m s h
    have he : (if rel then padd m.cur a.p else a.p) = toAbs rel s.cur a.p := by rw [h]; rfl
    have hn := ih { m with cur := toAbs rel s.cur a.p } (step s (.arc rel a)).1 (by rw [step_arc])
    simp only [List.map_cons, arcLoop, interp, arcArgs, he, b2r_ne]
    by_cases hz : (a.rx == 0 || a.ry == 0) = true
    · simp only [hn, hz, if_true]; simp [step, hz]
    · by_cases hq : (toAbs rel s.cur a.p == s.cur) = true
      · -- the group is skipped: the model's state is untouched, the spec's current point is set to itself
        have hm : m.cur = (step s (.arc rel a)).1.cur := by rw [step_arc, h]; exact (beq_iff_eq.mp hq).symm
        simp only [hz, h, hq, if_true, ih m _ hm]; simp [step, hz, hq]
      · simp only [hn, hz, h, hq]; simp [step, hz, hq]

theorem absArcs_cur : ∀ (gs : List Arc) (g : Arc) (s : SSt),
    (interp s ((g :: gs).map (.arc false))).1.cur = (lastD g gs).p := by
  intro gs
  induction gs with
  | nil => intro g s; simp only [List.map_cons, List.map_nil, interp, step_arc]; rfl
  | cons a r ih => intro g s; rw [List.map_cons, interp, ih, lastD_cons_eq]

def flatP (ps : List Pt) : List Rat := ps.flatMap fun p => [p.1, p.2]
def flat4 (gs : List (Pt × Pt)) : List Rat := gs.flatMap fun g => [g.1.1, g.1.2, g.2.1, g.2.2]
def flat6 (gs : List (Pt × Pt × Pt)) : List Rat :=
  gs.flatMap fun g => [g.1.1, g.1.2, g.2.1.1, g.2.1.2, g.2.2.1, g.2.2.2]
def flat7 (gs : List Arc) : List Rat :=
  gs.flatMap fun a => [a.rx, a.ry, a.rot, b2r a.large, b2r a.sweep, a.p.1, a.p.2]

theorem pairs_flatP (ps : List Pt) : pairs (flatP ps) = some ps := by
  induction ps with
  | nil => rfl
  | cons p r ih => simp only [flatP, List.flatMap_cons] at ih ⊢; simp [pairs, ih]

theorem quads_flat4 (gs : List (Pt × Pt)) : quads (flat4 gs) = some gs := by
  induction gs with
  | nil => rfl
  | cons p r ih => simp only [flat4, List.flatMap_cons] at ih ⊢; simp [quads, ih]

theorem sixes_flat6 (gs : List (Pt × Pt × Pt)) : sixes (flat6 gs) = some gs := by
  induction gs with
  | nil => rfl
  | cons p r ih => simp only [flat6, List.flatMap_cons] at ih ⊢; simp [sixes, ih]

theorem sevens_flat7 (gs : List Arc) : sevens (flat7 gs) = some (gs.map arcArgs) := by
  induction gs with
  | nil => rfl
  | cons p r ih => simp only [flat7, List.flatMap_cons] at ih ⊢; simp [sevens, ih, arcArgs]

def toRaw : Cmd → Char × List Rat
  | .move rel ps => (if rel then 'm' else 'M', flatP ps)
  | .line rel ps => (if rel then 'l' else 'L', flatP ps)
  | .hline rel xs => (if rel then 'h' else 'H', xs)
  | .vline rel ys => (if rel then 'v' else 'V', ys)
  | .cubic rel gs => (if rel then 'c' else 'C', flat6 gs)
  | .smooth rel gs => (if rel then 's' else 'S', flat4 gs)
  | .quad rel gs => (if rel then 'q' else 'Q', flat4 gs)
  | .smoothQuad rel ps => (if rel then 't' else 'T', flatP ps)
  | .arc rel gs => (if rel then 'a' else 'A', flat7 gs)
  | .close => ('Z', [])

def isMove : Cmd → Bool
  | .move _ _ => true
  | _ => false

theorem addSeg_close (m : St) (h : m.inPath = true) :
    addSeg m 'Z' [] = .ok ({ m with cur := m.start, lastKey := 'Z' }, [.close]) := by
  simp [addSeg, h]

theorem addSeg_move (m : St) (rel : Bool) (p : Pt) (r : List Pt) :
    addSeg m (if rel then 'm' else 'M') (flatP (p :: r)) =
      let q := toAbs rel m.cur p
      let ps := absOrP rel q r
      .ok ({ m with start := q, inPath := true, cur := lastD q ps, lastKey := if rel then 'm' else 'M' },
           .moveTo q :: ps.map .lineTo) := by
  cases rel <;> simp [addSeg, pairs_flatP, absOrP, absPairs, toAbs, padd]

theorem addSeg_line (m : St) (rel : Bool) (p : Pt) (r : List Pt) :
    addSeg m (if rel then 'l' else 'L') (flatP (p :: r)) =
      let ps := absOrP rel m.cur (p :: r)
      .ok ({ m with cur := lastD m.cur ps, lastKey := if rel then 'l' else 'L' }, ps.map .lineTo) := by
  cases rel <;> simp [addSeg, pairs_flatP, absOrP]

theorem addSeg_hline (m : St) (rel : Bool) (x : Rat) (r : List Rat) :
    addSeg m (if rel then 'h' else 'H') (x :: r) =
      let vs := absOrV rel m.cur.1 (x :: r)
      .ok ({ m with cur := (lastD m.cur.1 vs, m.cur.2), lastKey := if rel then 'h' else 'H' },
           vs.map fun v => .lineTo (v, m.cur.2)) := by
  cases rel <;> simp [addSeg, absOrV, absVals]

theorem addSeg_vline (m : St) (rel : Bool) (y : Rat) (r : List Rat) :
    addSeg m (if rel then 'v' else 'V') (y :: r) =
      let vs := absOrV rel m.cur.2 (y :: r)
      .ok ({ m with cur := (m.cur.1, lastD m.cur.2 vs), lastKey := if rel then 'v' else 'V' },
           vs.map fun v => .lineTo (m.cur.1, v)) := by
  cases rel <;> simp [addSeg, absOrV, absVals]

theorem addSeg_cubic (m : St) (rel : Bool) (g : Pt × Pt × Pt) (r : List (Pt × Pt × Pt)) :
    addSeg m (if rel then 'c' else 'C') (flat6 (g :: r)) =
      let gs := absOr6 rel m.cur (g :: r)
      .ok ({ m with ctl := (lastD g gs).2.1, cur := (lastD g gs).2.2, lastKey := if rel then 'c' else 'C' },
           gs.map fun g => .cubicTo g.1 g.2.1 g.2.2) := by
  cases rel <;> simp [addSeg, sixes_flat6, absOr6]

theorem addSeg_quad (m : St) (rel : Bool) (g : Pt × Pt) (r : List (Pt × Pt)) :
    addSeg m (if rel then 'q' else 'Q') (flat4 (g :: r)) =
      let gs := absOr4 rel m.cur (g :: r)
      let res := quadLoop m gs
      .ok ({ res.1 with ctl := (lastD g gs).1, cur := (lastD g gs).2, lastKey := if rel then 'q' else 'Q' }, res.2) := by
  cases rel <;> simp [addSeg, quads_flat4, absOr4]

theorem addSeg_smooth (m : St) (rel : Bool) (g : Pt × Pt) (r : List (Pt × Pt)) :
    addSeg m (if rel then 's' else 'S') (flat4 (g :: r)) =
      let res := smoothCubeLoop (if rel then 's' else 'S') m (absOr4 rel m.cur (g :: r))
      .ok ({ res.1 with lastKey := if rel then 's' else 'S' }, res.2) := by
  cases rel <;> simp [addSeg, quads_flat4, absOr4]

theorem addSeg_smoothQuad (m : St) (rel : Bool) (p : Pt) (r : List Pt) :
    addSeg m (if rel then 't' else 'T') (flatP (p :: r)) =
      let res := smoothQuadLoop (if rel then 't' else 'T') m (absOrP rel m.cur (p :: r))
      .ok ({ res.1 with lastKey := if rel then 't' else 'T' }, res.2) := by
  cases rel <;> simp [addSeg, pairs_flatP, absOrP]

theorem addSeg_arc (m : St) (rel : Bool) (g : Arc) (r : List Arc) :
    addSeg m (if rel then 'a' else 'A') (flat7 (g :: r)) =
      let res := arcLoop rel m ((g :: r).map arcArgs)
      .ok ({ res.1 with lastKey := if rel then 'a' else 'A' }, res.2) := by
  cases rel <;> simp [addSeg, sevens_flat7]

theorem Sim.set {m : St} {s : SSt} {o : Bool} (h : Sim m s o) (rel : Bool) (lo up : Char) (c ctl : Pt) (cb qb : Bool)
    (hc : ∀ b : Bool, isCubeKey (if b then lo else up) = cb := by decide)
    (hq : ∀ b : Bool, isQuadKey (if b then lo else up) = qb := by decide) :
    Sim { m with cur := c, ctl := ctl, lastKey := if rel then lo else up }
      { cur := c, start := s.start, cubicCtl := if cb then some ctl else none,
        quadCtl := if qb then some ctl else none } o :=
  ⟨rfl, h.start, h.inPath, by rw [hc], by rw [hq]⟩

theorem setKey_self (m : St) (k : Char) (h : m.lastKey = k) : { m with lastKey := k } = m := by subst h; rfl

theorem sim_of {m M : St} {s S : SSt} {o : Bool} {c : Cmd} {O : List Op}
    (hm : addSeg m (toRaw c).1 (toRaw c).2 = .ok (M, O)) (hs : interp s (expand c) = (S, O))
    (h : Sim M S (o || isMove c)) :
    ∃ m', addSeg m (toRaw c).1 (toRaw c).2 = .ok (m', (interp s (expand c)).2) ∧
      Sim m' (interp s (expand c)).1 (o || isMove c) :=
  ⟨M, by rw [hm, hs], by rw [hs]; exact h⟩

/-- A closepath is only simulated inside a path (`hc`): before any moveto the code ignores it while the spec
    would emit a close. -/
theorem cmd_sim (m : St) (s : SSt) (o : Bool) (c : Cmd) (h : Sim m s o) (ha : c.hasArgs = true)
    (hc : c = .close → o = true) :
    ∃ m', addSeg m (toRaw c).1 (toRaw c).2 = .ok (m', (interp s (expand c)).2) ∧
      Sim m' (interp s (expand c)).1 (o || isMove c) := by
  obtain ⟨cur, st, cc, qc⟩ := s
  obtain rfl : m.cur = cur := h.cur
  match c, ha, hc with
  | .close, _, hc =>
    cases hc rfl
    exact sim_of (addSeg_close m h.inPath) rfl ⟨h.start, h.start, h.inPath, rfl, rfl⟩
  | .move rel (p :: r), _, _ =>
    exact sim_of (addSeg_move m rel p r) (by simp only [expand, interp, step, lines_interp]; rfl)
      ⟨rfl, rfl, (Bool.or_true o).symm, by cases rel <;> rfl, by cases rel <;> rfl⟩
  | .line rel (p :: r), _, _ =>
    exact sim_of (addSeg_line m rel p r)
      (by simp only [expand, List.map_cons, interp, step, lines_interp, absOrP_cons, lastD_cons_eq]; rfl)
      (Bool.or_false o ▸ h.set rel 'l' 'L' _ m.ctl false false)
  | .hline rel (x :: r), _, _ =>
    exact sim_of (addSeg_hline m rel x r)
      (by simp only [expand, List.map_cons, interp, step, h_interp, absOrV_cons, lastD_cons_eq]; rfl)
      (Bool.or_false o ▸ h.set rel 'h' 'H' _ m.ctl false false)
  | .vline rel (y :: r), _, _ =>
    exact sim_of (addSeg_vline m rel y r)
      (by simp only [expand, List.map_cons, interp, step, v_interp, absOrV_cons, lastD_cons_eq]; rfl)
      (Bool.or_false o ▸ h.set rel 'v' 'V' _ m.ctl false false)
  | .cubic rel (g :: r), _, _ =>
    exact sim_of (addSeg_cubic m rel g r) (by simp only [expand, cubic_interp]; rfl)
      (Bool.or_false o ▸ h.set rel 'c' 'C' _ _ true false)
  | .quad rel (g :: r), _, _ =>
    obtain ⟨q1, q2⟩ := quad_loop rel r g m ⟨m.cur, st, cc, qc⟩ rfl
    exact sim_of ((addSeg_quad m rel g r).trans (by simp only [q1]; rfl)) (Prod.ext q2 rfl) (Bool.or_false o ▸ h.set rel 'q' 'Q' _ _ false true)
  | .smooth rel (g :: r), _, _ =>
    obtain ⟨e, sm, lk⟩ := smoothCube_loop rel (if rel then 's' else 'S') (by cases rel <;> rfl) (by cases rel <;> rfl) (g :: r) m _ o h
    exact sim_of (addSeg_smooth m rel g r) (Prod.ext rfl e.symm)
      (by rw [setKey_self _ _ (lk (by simp))]; exact (Bool.or_false o).symm ▸ sm)
  | .smoothQuad rel (p :: r), _, _ =>
    obtain ⟨e, sm, lk⟩ := smoothQuad_loop rel (if rel then 't' else 'T') (by cases rel <;> rfl) (by cases rel <;> rfl) (p :: r) m _ o h
    exact sim_of (addSeg_smoothQuad m rel p r) (Prod.ext rfl e.symm)
      (by rw [setKey_self _ _ (lk (by simp))]; exact (Bool.or_false o).symm ▸ sm)
  | .arc rel (g :: r), _, _ =>
    have e := arc_loop rel (g :: r) m ⟨m.cur, st, cc, qc⟩ rfl
    exact sim_of ((addSeg_arc m rel g r).trans (by simp only [e]; rfl)) (Prod.ext (arcs_plain rel r g _) rfl)
      (Bool.or_false o ▸ h.set rel 'a' 'A' _ m.ctl false false)
  | .move _ [], ha, _ | .line _ [], ha, _ | .hline _ [], ha, _ | .vline _ [], ha, _ | .cubic _ [], ha, _
  | .smooth _ [], ha, _ | .quad _ [], ha, _ | .smoothQuad _ [], ha, _ | .arc _ [], ha, _ => simp [Cmd.hasArgs] at ha

theorem interp_append (a b : List Seg) : ∀ s : SSt,
    interp s (a ++ b) = ((interp (interp s a).1 b).1, (interp s a).2 ++ (interp (interp s a).1 b).2) := by
  induction a with
  | nil => intro s; simp [interp]
  | cons g r ih => intro s; simp [interp, ih]

theorem cmds_sim : ∀ (cmds : List Cmd) (m : St) (s : SSt), Sim m s true → cmds.all Cmd.hasArgs = true →
    ∃ m', runSegs m (cmds.map toRaw) = .ok (m', (interp s (cmds.flatMap expand)).2) ∧
      Sim m' (interp s (cmds.flatMap expand)).1 true := by
  intro cmds
  induction cmds with
  | nil => intro m s h _; exact ⟨m, rfl, h⟩
  | cons c r ih =>
    intro m s h ha
    simp only [List.all_cons, Bool.and_eq_true] at ha
    obtain ⟨m1, e1, s1⟩ := cmd_sim m s true c h ha.1 (fun _ => rfl)
    obtain ⟨m2, e2, s2⟩ := ih m1 _ s1 ha.2
    simp only [List.map_cons, List.flatMap_cons, interp_append, runSegs, e1, e2]
    exact ⟨m2, rfl, s2⟩

end WR.C18.Lemmas
