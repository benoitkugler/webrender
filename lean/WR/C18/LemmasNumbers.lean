/-
  C18 — numbers and strings: the scanner and its fuel-free reading `pieces`; number literals `Lit` as read by
  the code's scanner, by the spec's `readNumber` and by `parseFloat`; `parsePoints` on sequences of literals;
  `parsePath` cutting rendered commands (`SCmd`) at the letters.
-/
import WR.C18.Spec
namespace WR.C18.Lemmas
open WR.C18 WR.C18.Spec

theorem lastD_cons_eq {α} (d h : α) (t : List α) : lastD d (h :: t) = lastD h t := by
  induction t generalizing d h with
  | nil => rfl
  | cons a t ih => simp only [lastD]; rw [ih d a, ih h a]

theorem consumeRest_concat (sd : Bool) (prev : Char) (cs : List Char) :
    (consumeRest sd prev cs).1 ++ (consumeRest sd prev cs).2 = cs := by
  fun_induction consumeRest sd prev cs <;> simp_all +zetaDelta

theorem consumeNumber_concat (f : Bool) (c : Char) (cs : List Char) :
    (consumeNumber f c cs).1 ++ (consumeNumber f c cs).2 = c :: cs := by
  unfold consumeNumber
  split
  · simp
  · simp [consumeRest_concat]

theorem consumeRest_len (sd : Bool) (prev : Char) (cs : List Char) :
    (consumeRest sd prev cs).2.length ≤ cs.length := by
  have h := congrArg List.length (consumeRest_concat sd prev cs)
  simp at h; omega

theorem consumeNumber_len (f : Bool) (c : Char) (cs : List Char) :
    (consumeNumber f c cs).2.length ≤ cs.length := by
  unfold consumeNumber
  split
  · simp
  · simp [consumeRest_len]

def pieces (arc : Bool) (n : Nat) : List Char → List Piece
  | [] => []
  | c :: cs =>
    if isNumStart c then
      let r := consumeNumber (arc && (n % 7 == 3 || n % 7 == 4)) c cs
      .tok r.1 :: pieces arc (n + 1) r.2
    else .skip c :: pieces arc n cs
termination_by s => s.length
decreasing_by
  · have := consumeNumber_len (arc && (n % 7 == 3 || n % 7 == 4)) c cs
    simp only [List.length_cons]; omega
  · simp

theorem pieces_concat (arc : Bool) (n : Nat) (s : List Char) : (pieces arc n s).flatMap Piece.chars = s := by
  fun_induction pieces arc n s <;> simp_all +zetaDelta [Piece.chars, consumeNumber_concat]

theorem scan_pieces (arc : Bool) (fuel : Nat) : ∀ (n : Nat) (s : List Char),
    (∀ ps, scan arc fuel n s = some ps → ps = pieces arc n s) ∧
    (s.length < fuel → scan arc fuel n s = some (pieces arc n s)) := by
  induction fuel with
  | zero => intro n s; exact ⟨fun _ h => by simp [scan] at h, fun h => absurd h (Nat.not_lt_zero _)⟩
  | succ k ih =>
    intro n s
    cases s with
    | nil => simp [scan, pieces]
    | cons c cs =>
      have hl := consumeNumber_len (arc && (n % 7 == 3 || n % 7 == 4)) c cs
      simp only [scan, pieces]
      split
      · refine ⟨fun ps h => ?_, fun h => ?_⟩
        · obtain ⟨ps', h1, rfl⟩ := Option.map_eq_some_iff.mp h
          rw [(ih _ _).1 ps' h1]
        · rw [(ih _ _).2 (by simp at h; omega)]; rfl
      · refine ⟨fun ps h => ?_, fun h => ?_⟩
        · obtain ⟨ps', h1, rfl⟩ := Option.map_eq_some_iff.mp h
          rw [(ih _ _).1 ps' h1]
        · rw [(ih _ _).2 (by simpa using h)]; rfl

theorem scan_fuel (arc : Bool) (fuel n : Nat) (s : List Char) (h : s.length < fuel) :
    (scan arc fuel n s).isSome = true := by
  rw [(scan_pieces arc fuel n s).2 h]; rfl

theorem parsePoints_eq (arc : Bool) (s : List Char) :
    parsePoints arc s = match (tokens (pieces arc 0 s)).mapM parseFloat with
      | some vs => .ok vs
      | none => .error .float := by
  rw [parsePoints, (scan_pieces arc _ 0 s).2 (Nat.lt_succ_self _)]
  rfl

/-- a number literal of the SVG grammar: sign? (digits ("." digits?)? | "." digits) (("e"|"E") sign? digits)? -/
structure Lit where
  neg : Bool
  ip : List Char
  dot : Bool
  fp : List Char
  ex : Option (Char × Option Char × List Char)

def expChars : Option (Char × Option Char × List Char) → List Char
  | none => []
  | some (e, none, ds) => e :: ds
  | some (e, some sg, ds) => e :: sg :: ds

def Lit.body (l : Lit) : List Char := l.ip ++ ((if l.dot then '.' :: l.fp else []) ++ expChars l.ex)

def Lit.chars (l : Lit) : List Char := if l.neg then '-' :: l.body else l.body

def allDigits (ds : List Char) : Prop := ∀ c ∈ ds, c.isDigit = true

structure Lit.WF (l : Lit) : Prop where
  ip : allDigits l.ip
  fp : allDigits l.fp
  nodot : l.dot = false → l.fp = []
  nonempty : l.ip ≠ [] ∨ l.fp ≠ []
  ex : match l.ex with
    | none => True
    | some (e, sg, ds) => (e = 'e' ∨ e = 'E') ∧ (sg = none ∨ sg = some '-' ∨ sg = some '+') ∧ ds ≠ [] ∧ allDigits ds

/-- what may follow the literal for the code's scanner to end the token there -/
def Lit.stops (l : Lit) : List Char → Prop
  | [] => True
  | c :: _ => c.isDigit = false ∧ c ≠ 'e' ∧ c ≠ 'E' ∧ (c = '.' → l.dot = true)

theorem allDigits_cons {d : Char} {ds : List Char} (h : allDigits (d :: ds)) : d.isDigit = true ∧ allDigits ds :=
  ⟨h d (by simp), fun c hc => h c (by simp [hc])⟩

theorem Lit.WF.ex_cases {l : Lit} (hw : l.WF) : l.ex = none ∨ ∃ e sg ds, l.ex = some (e, sg, ds) ∧
    (e = 'e' ∨ e = 'E') ∧ (sg = none ∨ sg = some '-' ∨ sg = some '+') ∧ ds ≠ [] ∧ allDigits ds := by
  have h := hw.ex
  cases hx : l.ex with
  | none => exact .inl rfl
  | some x => rw [hx] at h; exact .inr ⟨x.1, x.2.1, x.2.2, rfl, h⟩

def numEnd (c : Char) : Prop := c.isDigit = true ∨ c = '.'

theorem numEnd_ne (c : Char) (h : numEnd c) : c ≠ '-' ∧ c ≠ '+' ∧ c ≠ 'e' ∧ c ≠ 'E' := by
  rcases h with h | rfl
  · refine ⟨?_, ?_, ?_, ?_⟩ <;> (rintro rfl; revert h; decide)
  · decide

theorem lastD_numEnd (p : Char) (ds : List Char) (hp : numEnd p) (h : allDigits ds) : numEnd (lastD p ds) := by
  induction ds generalizing p with
  | nil => exact hp
  | cons d r ih => rw [lastD_cons_eq]; exact ih d (.inl (allDigits_cons h).1) (allDigits_cons h).2

theorem lastD_digit (p : Char) (ds : List Char) (hne : ds ≠ []) (h : allDigits ds) : numEnd (lastD p ds) := by
  cases ds with
  | nil => exact absurd rfl hne
  | cons d r => rw [lastD_cons_eq]; exact lastD_numEnd d r (.inl (allDigits_cons h).1) (allDigits_cons h).2

def Takes (sd : Bool) (p : Char) (w : List Char) (sd' : Bool) (p' : Char) : Prop :=
  ∀ t, consumeRest sd p (w ++ t) = (w ++ (consumeRest sd' p' t).1, (consumeRest sd' p' t).2)

theorem Takes.nil (sd : Bool) (p : Char) : Takes sd p [] sd p := fun _ => rfl

theorem Takes.append {sd sd1 sd2 : Bool} {p p1 p2 : Char} {u v : List Char}
    (h1 : Takes sd p u sd1 p1) (h2 : Takes sd1 p1 v sd2 p2) : Takes sd p (u ++ v) sd2 p2 := by
  intro t; rw [List.append_assoc, h1, h2, List.append_assoc]

theorem Takes.digits : ∀ (ds : List Char), allDigits ds → ∀ sd p, Takes sd p ds sd (lastD p ds) := by
  intro ds
  induction ds with
  | nil => intro _ sd p; exact Takes.nil sd p
  | cons d r ih =>
    intro h sd p t
    simp [consumeRest, (allDigits_cons h).1, ih (allDigits_cons h).2 sd d t, lastD_cons_eq]

theorem Takes.dot (p : Char) : Takes false p ['.'] true '.' := fun t => by
  have : ('.' : Char).isDigit = false := by decide
  simp [consumeRest, this]

def sgChars : Option Char → List Char
  | none => []
  | some c => [c]

theorem expChars_some (e : Char) (sg : Option Char) (ds : List Char) :
    expChars (some (e, sg, ds)) = e :: (sgChars sg ++ ds) := by
  cases sg <;> rfl

theorem Takes.exp (l : Lit) (hw : l.WF) (sd : Bool) (p : Char) (hp : numEnd p) :
    ∃ p', numEnd p' ∧ Takes sd p (expChars l.ex) sd p' := by
  rcases hw.ex_cases with hx | ⟨e, sg, ds, hx, he, hs, hne, hd⟩ <;> rw [hx]
  · exact ⟨p, hp, Takes.nil sd p⟩
  · have h1 : Takes sd p (e :: sgChars sg) sd (lastD e (sgChars sg)) := by
      intro t
      rcases he with rfl | rfl <;> rcases hs with rfl | rfl | rfl <;> simp [consumeRest, sgChars, lastD] <;> decide
    rw [expChars_some]
    exact ⟨_, lastD_digit _ ds hne hd, h1.append (Takes.digits ds hd sd _)⟩

theorem Lit.WF.ip_ne {l : Lit} (hw : l.WF) (hd : l.dot = false) : l.ip ≠ [] :=
  hw.nonempty.resolve_right (not_not_intro (hw.nodot hd))

theorem Takes.body (l : Lit) (hw : l.WF) (p : Char) : ∃ p', numEnd p' ∧ Takes false p l.body l.dot p' := by
  have hi := Takes.digits l.ip hw.ip false p
  cases hd : l.dot with
  | false =>
    obtain ⟨p', hp', he⟩ := Takes.exp l hw false _ (lastD_digit p l.ip (hw.ip_ne hd) hw.ip)
    exact ⟨p', hp', by simpa [Lit.body, hd] using hi.append he⟩
  | true =>
    obtain ⟨p', hp', he⟩ := Takes.exp l hw true _ (lastD_numEnd '.' l.fp (.inr rfl) hw.fp)
    exact ⟨p', hp', by simpa [Lit.body, hd] using hi.append (((Takes.dot _).append (Takes.digits l.fp hw.fp true '.')).append he)⟩

theorem Lit.WF.dot_of_ip_nil {l : Lit} (hw : l.WF) (hi : l.ip = []) : l.dot = true := by
  cases hd : l.dot with
  | true => rfl
  | false => exact absurd hi (hw.ip_ne hd)

theorem body_head (l : Lit) (hw : l.WF) (rest : List Char) : ∃ c t, l.body ++ rest = c :: t ∧ numEnd c := by
  cases hi : l.ip with
  | cons d ds => exact ⟨d, _, by rw [Lit.body, hi]; rfl, .inl (hw.ip d (by simp [hi]))⟩
  | nil => exact ⟨'.', _, by rw [Lit.body, hi, hw.dot_of_ip_nil hi]; rfl, .inr rfl⟩

theorem chars_head (l : Lit) (hw : l.WF) (rest : List Char) :
    ∃ c t, l.chars ++ rest = c :: t ∧ (numEnd c ∨ c = '-') := by
  cases hn : l.neg with
  | true => exact ⟨'-', _, by rw [Lit.chars, hn]; rfl, .inr rfl⟩
  | false =>
    obtain ⟨c, t, e, hc⟩ := body_head l hw rest
    exact ⟨c, t, by simpa [Lit.chars, hn] using e, .inl hc⟩

/-- previous char `'e'`: the state in which a sign is accepted -/
theorem consumeNumber_eq (c : Char) (cs : List Char) (hc : numEnd c ∨ c = '-') :
    consumeNumber false c cs = consumeRest false 'e' (c :: cs) := by
  rcases hc with (hc | rfl) | rfl
  · have : (c == '.') = false := by simp; rintro rfl; revert hc; decide
    simp [consumeNumber, consumeRest, hc, this]
  · simp [consumeNumber, consumeRest]
  · simp [consumeNumber, consumeRest]

theorem consumeRest_stops (l : Lit) (rest : List Char) (hs : l.stops rest) (p : Char) (hp : numEnd p) :
    consumeRest l.dot p rest = ([], rest) := by
  cases rest with
  | nil => rfl
  | cons c cs =>
    obtain ⟨h1, h2, h3, h4⟩ := hs
    obtain ⟨_, _, pe, pE⟩ := numEnd_ne p hp
    by_cases hd : c = '.'
    · simp [consumeRest, hd, h4 hd]
    · simp [consumeRest, h1, h2, h3, hd, pe, pE]

theorem consumeNumber_lit (l : Lit) (hw : l.WF) (rest : List Char) (hs : l.stops rest) :
    match l.chars ++ rest with
    | [] => False
    | c :: cs => consumeNumber false c cs = (l.chars, rest) := by
  obtain ⟨c, cs, e, hc⟩ := chars_head l hw rest
  have ht : ∃ p', numEnd p' ∧ Takes false 'e' l.chars l.dot p' := by
    cases hn : l.neg with
    | false => simpa [Lit.chars, hn] using Takes.body l hw 'e'
    | true =>
      obtain ⟨p', hp', hb⟩ := Takes.body l hw '-'
      have hm : Takes false 'e' ['-'] false '-' := fun t => by simp [consumeRest]
      exact ⟨p', hp', by simpa [Lit.chars, hn] using hm.append hb⟩
  obtain ⟨p', hp', ht⟩ := ht
  rw [e]
  show consumeNumber false c cs = _
  rw [consumeNumber_eq c cs hc, ← e, ht rest, consumeRest_stops l rest hs p' hp', List.append_nil]

def Lit.mant (l : Lit) : Rat :=
  let m : Rat := ((natOf (l.ip ++ l.fp) : Nat) : Rat) / ((10 ^ l.fp.length : Nat) : Rat)
  if l.neg then -m else m

def Lit.value (l : Lit) : Rat :=
  match l.ex with
  | none => l.mant
  | some (_, sg, ds) => l.mant * pow10 (sg == some '-') (natOf ds)

def startsNonDigit (t : List Char) : Prop := ∀ c r, t = c :: r → c.isDigit = false

theorem takeWhile_digits (ds t : List Char) (h : allDigits ds) (ht : startsNonDigit t) :
    (ds ++ t).takeWhile Char.isDigit = ds ∧ (ds ++ t).dropWhile Char.isDigit = t := by
  induction ds with
  | nil =>
    cases t with
    | nil => exact ⟨rfl, rfl⟩
    | cons c cs => simp [ht c cs rfl]
  | cons d r ih => simp [(allDigits_cons h).1, ih (allDigits_cons h).2]

theorem signOf_eq_stripSign : signOf = stripSign := by
  funext s; unfold signOf stripSign; rfl

theorem stripSign_numEnd (c : Char) (t : List Char) (hc : numEnd c) : stripSign (c :: t) = (false, c :: t) := by
  obtain ⟨h1, h2, _, _⟩ := numEnd_ne c hc
  unfold stripSign
  split
  · rename_i heq; cases heq; exact absurd rfl h1
  · rename_i heq; cases heq; exact absurd rfl h2
  · rfl

theorem stripSign_lit (l : Lit) (hw : l.WF) (rest : List Char) :
    stripSign (l.chars ++ rest) = (l.neg, l.body ++ rest) := by
  cases hn : l.neg with
  | true => simp [Lit.chars, hn, stripSign]
  | false =>
    obtain ⟨c, t, e, hc⟩ := body_head l hw rest
    simp only [Lit.chars, hn, Bool.false_eq_true, if_false, e, stripSign_numEnd c t hc]

theorem exp_head (l : Lit) (hw : l.WF) (rest : List Char) (hs : l.stops rest) (c : Char) (t : List Char)
    (h : expChars l.ex ++ rest = c :: t) : c.isDigit = false ∧ (c = '.' → l.dot = true) := by
  rcases hw.ex_cases with hx | ⟨e, sg, ds, hx, he, -⟩ <;> rw [hx] at h
  · cases h
    exact ⟨hs.1, hs.2.2.2⟩
  · rw [expChars_some] at h
    cases h
    rcases he with rfl | rfl <;> exact ⟨by decide, fun h => absurd h (by decide)⟩

theorem Lit.WF.not_empty {l : Lit} (hw : l.WF) : (l.ip.isEmpty && l.fp.isEmpty) = false := by
  rcases hw.nonempty with g | g <;> simp [g]

theorem body_split (l : Lit) (hw : l.WF) (rest : List Char) (hs : l.stops rest) :
    (l.body ++ rest).takeWhile Char.isDigit = l.ip ∧
    (l.body ++ rest).dropWhile Char.isDigit = (if l.dot then '.' :: l.fp else []) ++ (expChars l.ex ++ rest) := by
  rw [Lit.body, List.append_assoc, List.append_assoc]
  refine takeWhile_digits l.ip _ hw.ip ?_
  cases hd : l.dot with
  | true => intro c r h; cases h; decide
  | false => exact fun c r h => (exp_head l hw rest hs c r h).1

theorem fracPart_lit (l : Lit) (hw : l.WF) (rest : List Char) (hs : l.stops rest) :
    fracPart ((if l.dot then '.' :: l.fp else []) ++ (expChars l.ex ++ rest)) = (l.fp, expChars l.ex ++ rest) := by
  cases hd : l.dot with
  | true =>
    have h := takeWhile_digits l.fp _ hw.fp fun c r h => (exp_head l hw rest hs c r h).1
    simp [fracPart, h.1, h.2]
  | false =>
    simp only [Bool.false_eq_true, if_false, List.nil_append, hw.nodot hd]
    unfold fracPart
    split
    · rename_i r heq
      exact absurd ((exp_head l hw rest hs '.' r heq).2 rfl) (by simp [hd])
    · rfl

/-- the spec's fraction step differs from strconv's only on a lone dot -/
theorem fracStep_eq (ip s : List Char) (h : (ip.isEmpty && (fracPart s).1.isEmpty) = false) :
    fracStep ip s = fracPart s := by
  unfold fracStep fracPart at *
  split <;> simp_all [digits]

theorem stripSign_sg (sg : Option Char) (ds t : List Char) (hs : sg = none ∨ sg = some '-' ∨ sg = some '+')
    (hne : ds ≠ []) (hd : allDigits ds) : stripSign (sgChars sg ++ (ds ++ t)) = (sg == some '-', ds ++ t) := by
  rcases hs with rfl | rfl | rfl
  · cases ds with
    | nil => exact absurd rfl hne
    | cons a r => exact stripSign_numEnd a _ (.inl (allDigits_cons hd).1)
  · rfl
  · rfl

theorem exp_step (l : Lit) (hw : l.WF) (rest : List Char) (hs : l.stops rest) (mant : Rat) :
    expStep mant (expChars l.ex ++ rest) =
    some (match l.ex with
      | none => mant
      | some (_, sg, ds) => mant * pow10 (sg == some '-') (natOf ds), rest) := by
  rcases hw.ex_cases with hx | ⟨e, sg, ds, hx, he, hsg, hne, hd⟩ <;> rw [hx]
  · cases rest with
    | nil => rfl
    | cons c cs =>
      have h1 : (c == 'e' || c == 'E') = false := by simp [hs.2.1, hs.2.2.1]
      simp [expChars, expStep, h1]
  · have hE : (e == 'e' || e == 'E') = true := by rcases he with rfl | rfl <;> decide
    have htw := takeWhile_digits ds rest hd fun c r h => by cases h; exact hs.1
    simp [expChars_some, expStep, hE, signOf_eq_stripSign, stripSign_sg sg ds rest hsg hne hd, digits, htw.1, htw.2, hne]

theorem readNumber_lit (l : Lit) (hw : l.WF) (rest : List Char) (hs : l.stops rest) :
    readNumber true (l.chars ++ rest) = some (l.value, rest) := by
  have hb := body_split l hw rest hs
  have hf := fracPart_lit l hw rest hs
  unfold readNumber
  simp only [signOf_eq_stripSign, stripSign_lit l hw rest, Bool.not_true, Bool.false_and, Bool.false_eq_true, if_false,
    digits, hb.1, hb.2, fracStep_eq _ _ (by rw [hf]; exact hw.not_empty), hf, hw.not_empty, exp_step l hw rest hs]
  simp only [Lit.value, Lit.mant]

/-- exponents small enough that `parseFloat` does not take its far-outside-float32 shortcuts -/
def Lit.expSmall (l : Lit) : Prop :=
  match l.ex with
  | none => True
  | some (_, _, ds) => natOf ds ≤ 60

theorem parseFloat_lit (l : Lit) (hw : l.WF) (hsm : l.expSmall) (hov : f32Overflow l.value = false) :
    parseFloat l.chars = some l.value := by
  have hb := body_split l hw [] trivial
  have hf := fracPart_lit l hw [] trivial
  have hc := stripSign_lit l hw []
  simp only [List.append_nil] at hb hf hc
  unfold parseFloat
  simp only [hc, hb.1, hb.2, hf, hw.not_empty, Bool.false_eq_true, if_false]
  rcases hw.ex_cases with hx | ⟨e, sg, ds, hx, he, hsg, hne, hd⟩ <;> rw [hx]
  · simp [expChars, expPart, Lit.value, hx, Lit.mant] at hov ⊢
    simp [hov]
  · have hE : (e == 'e' || e == 'E') = true := by rcases he with rfl | rfl <;> decide
    have htw := takeWhile_digits ds [] hd (by intro c r h; cases h)
    have hss := stripSign_sg sg ds [] hsg hne hd
    simp only [List.append_nil] at htw hss
    have hsmall : natOf ds ≤ 60 := by simpa [Lit.expSmall, hx] using hsm
    simp only [expChars_some, expPart, hE, if_true, hss, htw.1, htw.2, List.isEmpty_nil, Bool.not_true, Bool.or_false]
    by_cases hn0 : natOf (l.ip ++ l.fp) = 0
    · have hz : ∀ x : Rat, (0 : Rat) / x = 0 := by intro x; grind
      have hm0 : l.mant = 0 := by simp only [Lit.mant, hn0]; cases l.neg <;> simp [hz]
      simp [hn0, hne, Lit.value, hx, hm0]
    · have h1 : ¬ (natOf ds > l.fp.length + 60) := by omega
      have h2 : ¬ (natOf ds > l.ip.length + 60) := by omega
      simp [hn0, hne, h1, h2, Lit.value, hx, Lit.mant] at hov ⊢
      simp [hov]

/-- everything the scanner skips: whitespace, comma, but also '+' -/
def isSep (c : Char) : Prop := isNumStart c = false

def sepOk (sep : List Char) : Prop := ∀ c ∈ sep, isSep c

abbrev Item := Lit × List Char

def render : List Item → List Char
  | [] => []
  | (l, sep) :: r => l.chars ++ (sep ++ render r)

def chainOk : List Item → Prop
  | [] => True
  | (l, sep) :: r => l.WF ∧ l.neg = l.neg ∧ sepOk sep ∧ l.stops (sep ++ render r) ∧ chainOk r

theorem tokens_skips (w : List Char) (ps : List Piece) : tokens (w.map Piece.skip ++ ps) = tokens ps := by
  induction w with
  | nil => rfl
  | cons c r ih => exact ih

theorem pieces_seps (n : Nat) (sep t : List Char) (hs : sepOk sep) :
    pieces false n (sep ++ t) = sep.map Piece.skip ++ pieces false n t := by
  induction sep with
  | nil => rfl
  | cons c cs ih =>
    have hc : isNumStart c = false := hs c (by simp)
    simp [pieces, hc, ih fun x hx => hs x (by simp [hx])]

theorem pieces_lit (n : Nat) (l : Lit) (hw : l.WF) (rest : List Char) (hs : l.stops rest) :
    pieces false n (l.chars ++ rest) = .tok l.chars :: pieces false (n + 1) rest := by
  obtain ⟨c, t, e, hc⟩ := chars_head l hw rest
  have hn : isNumStart c = true := by rcases hc with (h | rfl) | rfl <;> simp [isNumStart, *]
  have hcn := consumeNumber_lit l hw rest hs
  rw [e] at hcn ⊢
  simp [pieces, hn, hcn]

theorem tokens_items : ∀ (items : List Item) (n : Nat), chainOk items →
    tokens (pieces false n (render items)) = items.map fun it => it.1.chars := by
  intro items
  induction items with
  | nil => intro n _; simp [render, pieces, tokens]
  | cons it r ih =>
    intro n ⟨hw, _, hsep, hst, hr⟩
    rw [render, pieces_lit n it.1 hw _ hst, pieces_seps _ _ _ hsep]
    show it.1.chars :: tokens _ = _
    rw [tokens_skips, ih (n + 1) hr]; rfl

def valuesOk (items : List Item) : Prop :=
  ∀ it ∈ items, it.1.WF ∧ it.1.expSmall ∧ f32Overflow it.1.value = false

theorem mapM_parseFloat (items : List Item) (h : valuesOk items) :
    (items.map fun it => it.1.chars).mapM parseFloat = some (items.map fun it => it.1.value) := by
  induction items with
  | nil => simp
  | cons it r ih =>
    obtain ⟨hw, hs, ho⟩ := h it (by simp)
    have := ih (fun x hx => h x (by simp [hx]))
    simp [List.mapM_cons, parseFloat_lit it.1 hw hs ho, this]

theorem parsePoints_lead (lead : List Char) (items : List Item) (hl : sepOk lead) (hc : chainOk items)
    (hv : valuesOk items) : parsePoints false (lead ++ render items) = .ok (items.map fun it => it.1.value) := by
  rw [parsePoints_eq, pieces_seps 0 lead _ hl, tokens_skips, tokens_items items 0 hc, mapM_parseFloat items hv]

theorem digit_not_alpha (c : Char) (h : c.isDigit = true) : c.isAlpha = false := by
  simp only [Char.isDigit, Char.isAlpha, Char.isUpper, Char.isLower, Bool.and_eq_true, decide_eq_true_eq, Bool.or_eq_false_iff,
    Bool.and_eq_false_iff, decide_eq_false_iff_not] at h ⊢
  have h1 := h.1
  have h2 := h.2
  simp only [UInt32.le_iff_toNat_le] at h1 h2 ⊢
  have e0 : ('0' : Char).val.toNat = 48 := by decide
  have e9 : ('9' : Char).val.toNat = 57 := by decide
  have ec : c.toNat = c.val.toNat := rfl
  constructor <;> (simp; omega)

def noCmd (w : List Char) : Prop := ∀ c ∈ w, isCmd c = false

theorem noCmd_digits (ds : List Char) (h : allDigits ds) : noCmd ds := by
  intro c hc; simp [isCmd, digit_not_alpha c (h c hc)]

theorem noCmd_nil : noCmd [] := fun _ h => nomatch h

theorem noCmd_cons {c : Char} {t : List Char} (hc : isCmd c = false) (ht : noCmd t) : noCmd (c :: t) := by
  intro d hd
  rcases List.mem_cons.mp hd with rfl | h
  · exact hc
  · exact ht d h

theorem noCmd_append (u v : List Char) (hu : noCmd u) (hv : noCmd v) : noCmd (u ++ v) := by
  intro c hc
  rcases List.mem_append.mp hc with h | h
  · exact hu c h
  · exact hv c h

theorem noCmd_lit (l : Lit) (hw : l.WF) : noCmd l.chars := by
  have hexp : noCmd (expChars l.ex) := by
    rcases hw.ex_cases with hx | ⟨e, sg, ds, hx, he, hsg, -, hd⟩ <;> rw [hx]
    · exact noCmd_nil
    · rw [expChars_some]
      refine noCmd_cons (by rcases he with rfl | rfl <;> decide) (noCmd_append _ _ ?_ (noCmd_digits _ hd))
      rcases hsg with rfl | rfl | rfl
      · exact noCmd_nil
      · exact noCmd_cons (by decide) noCmd_nil
      · exact noCmd_cons (by decide) noCmd_nil
  have hdot : noCmd (if l.dot then '.' :: l.fp else []) := by
    cases l.dot
    · exact noCmd_nil
    · exact noCmd_cons (by decide) (noCmd_digits _ hw.fp)
  have hbody : noCmd l.body := noCmd_append _ _ (noCmd_digits _ hw.ip) (noCmd_append _ _ hdot hexp)
  unfold Lit.chars
  split
  · exact noCmd_cons (by decide) hbody
  · exact hbody

theorem splitSegs_nocmd : ∀ (w t : List Char), noCmd w →
    splitSegs (w ++ t) = (w ++ (splitSegs t).1, (splitSegs t).2) := by
  intro w
  induction w with
  | nil => intro t _; simp
  | cons c cs ih =>
    intro t h
    have hc := h c (by simp)
    have := ih t (fun x hx => h x (by simp [hx]))
    simp [splitSegs, hc, this]

structure SCmd where
  letter : Char
  lead : List Char
  items : List Item

def SCmd.args (c : SCmd) : List Char := c.lead ++ render c.items
def SCmd.text (c : SCmd) : List Char := c.letter :: c.args

def renderCmds : List SCmd → List Char
  | [] => []
  | c :: r => c.text ++ renderCmds r

theorem noCmd_render : ∀ items : List Item, (∀ it ∈ items, it.1.WF ∧ noCmd it.2) → noCmd (render items) := by
  intro items
  induction items with
  | nil => intro _ c hc; simp [render] at hc
  | cons it r ih =>
    intro h
    obtain ⟨l, sep⟩ := it
    have := h (l, sep) (by simp)
    simp only [render]
    exact noCmd_append _ _ (noCmd_lit l this.1) (noCmd_append _ _ this.2 (ih (fun x hx => h x (by simp [hx]))))

theorem splitSegs_render : ∀ cs : List SCmd,
    (∀ c ∈ cs, isCmd c.letter = true ∧ noCmd c.lead ∧ ∀ it ∈ c.items, it.1.WF ∧ noCmd it.2) →
    splitSegs (renderCmds cs) = ([], cs.map fun c => (c.letter, c.args)) := by
  intro cs
  induction cs with
  | nil => intro _; simp [renderCmds, splitSegs]
  | cons c r ih =>
    intro h
    obtain ⟨h1, h2, h3⟩ := h c (by simp)
    have hr := ih (fun x hx => h x (by simp [hx]))
    have hargs : noCmd c.args := noCmd_append _ _ h2 (noCmd_render _ h3)
    simp only [renderCmds, SCmd.text, List.cons_append, splitSegs, h1, if_true]
    rw [splitSegs_nocmd c.args (renderCmds r) hargs, hr]
    simp

def SCmd.ok (c : SCmd) : Prop :=
  isCmd c.letter = true ∧ c.letter ≠ 'a' ∧ c.letter ≠ 'A' ∧
  sepOk c.lead ∧ noCmd c.lead ∧ chainOk c.items ∧ valuesOk c.items ∧ ∀ it ∈ c.items, noCmd it.2

def SCmd.values (c : SCmd) : List Rat := c.items.map fun it => it.1.value

theorem parsePoints_args (c : SCmd) (h : c.ok) : parsePoints false c.args = .ok c.values := by
  obtain ⟨_, _, _, hl, _, hc, hv, _⟩ := h
  exact parsePoints_lead c.lead c.items hl hc hv

theorem runRaw_render : ∀ (cs : List SCmd) (st : St), (∀ c ∈ cs, c.ok) →
    runRaw st (cs.map fun c => (c.letter, c.args)) = runSegs st (cs.map fun c => (c.letter, c.values)) := by
  intro cs
  induction cs with
  | nil => intro st _; rfl
  | cons c r ih =>
    intro st h
    have hc := h c (by simp)
    have hl : (c.letter == 'a' || c.letter == 'A') = false := by simp [hc.2.1, hc.2.2.1]
    simp only [List.map_cons, runRaw, runSegs, hl, parsePoints_args c hc]
    cases addSeg st c.letter c.values with
    | error e => rfl
    | ok v => simp only []; rw [ih v.1 fun x hx => h x (by simp [hx])]

theorem parsePath_render (cs : List SCmd) (h : ∀ c ∈ cs, c.ok) :
    parsePath (renderCmds cs) = runSegs {} (cs.map fun c => (c.letter, c.values)) := by
  have hsplit := splitSegs_render cs fun c hc =>
    have ⟨a, _, _, _, b, _, hv, d⟩ := h c hc
    ⟨a, b, fun it hit => ⟨(hv it hit).1, d it hit⟩⟩
  rw [parsePath, hsplit]
  exact runRaw_render cs {} h

/-! the text `1-2.5.5 ` of the Props file's examples -/

def exL1 : Lit := { neg := false, ip := ['1'], dot := false, fp := [], ex := none }
def exL2 : Lit := { neg := true, ip := ['2'], dot := true, fp := ['5'], ex := none }
def exL3 : Lit := { neg := false, ip := [], dot := true, fp := ['5'], ex := none }
def exItems : List Item := [(exL1, []), (exL2, []), (exL3, [' '])]

theorem exL1_wf : exL1.WF := ⟨by simp [allDigits, exL1], by simp [allDigits, exL1], by simp [exL1], by simp [exL1], by simp [exL1]⟩
theorem exL2_wf : exL2.WF := ⟨by simp [allDigits, exL2], by simp [allDigits, exL2], by simp [exL2], by simp [exL2], by simp [exL2]⟩
theorem exL3_wf : exL3.WF := ⟨by simp [allDigits, exL3], by simp [allDigits, exL3], by simp [exL3], by simp [exL3], by simp [exL3]⟩

theorem exItems_chain : chainOk exItems := by
  refine ⟨exL1_wf, rfl, by simp [sepOk], ?_, exL2_wf, rfl, by simp [sepOk], ?_, exL3_wf, rfl, ?_, ?_, trivial⟩
  · simp [render, Lit.stops, Lit.chars, Lit.body, exL2, exL3, expChars]
  · simp [render, Lit.stops, Lit.chars, Lit.body, exL2, exL3, expChars]
  · intro c hc; simp at hc; subst hc; simp [isSep, isNumStart]
  · simp [render, Lit.stops, exL3]

end WR.C18.Lemmas
