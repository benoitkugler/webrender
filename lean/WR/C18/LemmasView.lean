/-
  C18 — the viewBox mapping; termination of `<use>` resolution and of guarded references by the number of
  registered ids not yet entered; the square facts behind the scaled arc radii.
-/
import WR.C18.Spec
namespace WR.C18.Lemmas
open WR.C18 WR.C18.Spec

theorem rmin_le_left (a b : Rat) : rmin a b ≤ a := by unfold rmin; split <;> grind
theorem rmin_le_right (a b : Rat) : rmin a b ≤ b := by unfold rmin; split <;> grind
theorem rmin_eq (a b : Rat) : rmin a b = a ∨ rmin a b = b := by unfold rmin; split <;> simp
theorem le_rmax_left (a b : Rat) : a ≤ rmax a b := by unfold rmax; split <;> grind
theorem le_rmax_right (a b : Rat) : b ≤ rmax a b := by unfold rmax; split <;> grind
theorem rmax_eq (a b : Rat) : rmax a b = a ∨ rmax a b = b := by unfold rmax; split <;> simp

theorem rmin_self (a : Rat) : rmin a a = a := by simp [rmin]
theorem rmax_self (a : Rat) : rmax a a = a := by simp [rmax]

theorem mul_div_self (a w : Rat) (h : w ≠ 0) : w * (a / w) = a := by grind

theorem mul_le_of_le_div (w s a : Rat) (hw : 0 < w) (h : s ≤ a / w) : w * s ≤ a := by
  have h1 : w * s ≤ w * (a / w) := Rat.mul_le_mul_of_nonneg_left h (Rat.le_of_lt hw)
  rw [mul_div_self a w (by grind)] at h1
  exact h1

theorem le_mul_of_div_le (w s a : Rat) (hw : 0 < w) (h : a / w ≤ s) : a ≤ w * s := by
  have h1 : w * (a / w) ≤ w * s := Rat.mul_le_mul_of_nonneg_left h (Rat.le_of_lt hw)
  rw [mul_div_self a w (by grind)] at h1
  exact h1

theorem resolveTransforms_viewport (pr : PAR) (W H : Rat) (hW : 0 < W) (hH : 0 < H) :
    resolveTransforms pr W H (some ⟨0, 0, W, H⟩) = ⟨1, 1, 0, 0⟩ := by
  have n1 : (W != 0) = true := by simp; grind
  have n2 : (H != 0) = true := by simp; grind
  have d1 : W / W = 1 := by grind
  have d2 : H / H = 1 := by grind
  have z1 (a : Rat) : a - a * 1 = 0 := by grind
  have z2 : (0 : Rat) / 2 = 0 := by grind
  have z3 : (0 : Rat) - 0 * 1 = 0 := by grind
  obtain ⟨ax, ay, n, s⟩ := pr
  -- both ratios are 1, so every choice of scale is 1 and every alignment offset is 0
  simp only [resolveTransforms, n1, n2, d1, d2, rmin_self, rmax_self, ite_self, z1, z2]
  cases ax <;> cases ay <;> simp only [z3]

/-- termination measure of reference resolution: the registered `ids` not yet in the set -/
def unused : List Nat → List Nat → Nat
  | [], _ => 0
  | k :: ks, inUse => (if inUse.contains k then 0 else 1) + unused ks inUse

theorem unused_le (ids inUse : List Nat) : unused ids inUse ≤ ids.length := by
  induction ids with
  | nil => simp [unused]
  | cons k ks ih => unfold unused; split <;> simp <;> omega

theorem unused_cons_le (ids inUse : List Nat) (id : Nat) : unused ids (id :: inUse) ≤ unused ids inUse := by
  induction ids with
  | nil => simp [unused]
  | cons k ks ih =>
    unfold unused
    rw [List.contains_cons]
    cases h1 : inUse.contains k <;> cases h2 : (k == id) <;> simp <;> omega

theorem unused_cons_lt (ids inUse : List Nat) (id : Nat) (hm : id ∈ ids) (hn : inUse.contains id = false) :
    unused ids (id :: inUse) < unused ids inUse := by
  induction ids with
  | nil => simp at hm
  | cons k ks ih =>
    have hle := unused_cons_le ks inUse id
    unfold unused
    rw [List.contains_cons]
    by_cases hk : k = id
    · subst hk
      have hn' : ¬ k ∈ inUse := by simpa using hn
      simp [hn']; omega
    · have hm' : id ∈ ks := by
        cases hm with
        | head => exact absurd rfl hk
        | tail _ h => exact h
      have := ih hm'
      have h2 : (k == id) = false := by simpa using hk
      cases h1 : inUse.contains k <;> simp [h2] <;> omega

theorem lookupDef_mem (defs : List (Nat × Node)) (id : Nat) (n : Node) (h : lookupDef defs id = some n) :
    id ∈ defs.map (·.1) := by
  induction defs with
  | nil => simp [lookupDef] at h
  | cons d ds ih =>
    obtain ⟨k, m⟩ := d
    unfold lookupDef at h
    split at h
    · rename_i hk; simp at hk; simp [hk]
    · simp; right; simpa using ih h

mutual
theorem processWith_ne_fuel (f : List Nat → Nat → Except PErr Drawn) (inUse : List Nat)
    (hf : ∀ id, f inUse id ≠ .error .fuel) : ∀ n : Node, processWith f inUse n ≠ .error .fuel
  | .shape t => by simp [processWith]
  | .group _ kids => by
    unfold processWith; exact processKids_ne_fuel f inUse hf kids
  | .defs kids => by
    unfold processWith
    have := processKids_ne_fuel f inUse hf kids
    split
    · rename_i e he; intro h; injection h with h; subst h; exact this he
    · simp
  | .use none => by simp [processWith]
  | .use (some id) => by unfold processWith; exact hf id
theorem processKids_ne_fuel (f : List Nat → Nat → Except PErr Drawn) (inUse : List Nat)
    (hf : ∀ id, f inUse id ≠ .error .fuel) : ∀ ks : List Node, processKids f inUse ks ≠ .error .fuel
  | [] => by simp [processKids]
  | k :: r => by
    unfold processKids
    have h1 := processWith_ne_fuel f inUse hf k
    have h2 := processKids_ne_fuel f inUse hf r
    split
    · rename_i e he; intro h; injection h with h; subst h; exact h1 he
    · split
      · rename_i e he; intro h; injection h with h; subst h; exact h2 he
      · simp
end

theorem descend_ne_fuel (ids : List Nat) (F : Nat → List Nat → Nat → Except PErr Drawn)
    (hF : ∀ d inUse id, F (d + 1) inUse id ≠ .error .fuel ∨
      (id ∈ ids ∧ inUse.contains id = false ∧ ∃ n, F (d + 1) inUse id = processWith (F d) (id :: inUse) n)) :
    ∀ d inUse id, unused ids inUse < d → F d inUse id ≠ .error .fuel := by
  intro d
  induction d with
  | zero => intro _ _ h; omega
  | succ d ih =>
    intro inUse id h
    rcases hF d inUse id with h0 | ⟨hm, hn, n, e⟩
    · exact h0
    · rw [e]
      apply processWith_ne_fuel
      intro id'
      apply ih
      have := unused_cons_lt ids inUse id hm hn
      omega

theorem follow_ne_fuel (defs : List (Nat × Node)) :
    ∀ d inUse id, unused (defs.map (·.1)) inUse < d → follow defs d inUse id ≠ .error .fuel := by
  refine descend_ne_fuel _ (follow defs) fun d inUse id => ?_
  rw [follow]; dsimp only
  split
  · exact .inl (by simp)
  · rename_i hc
    split
    · exact .inl (by simp)
    · rename_i target ht
      exact .inr ⟨lookupDef_mem defs id target ht, by simpa using hc, target, rfl⟩

theorem followGuard_ne_fuel (defs : List (Nat × Node)) :
    ∀ d inP key, unused (defs.map (·.1)) inP < d → followGuard defs d inP key ≠ .error .fuel := by
  refine descend_ne_fuel _ (followGuard defs) fun d inP key => ?_
  rw [followGuard]; dsimp only
  split
  · exact .inl (by simp)
  · rename_i hc
    split
    · exact .inl (by simp)
    · rename_i content ht
      exact .inr ⟨lookupDef_mem defs key content ht, by simpa using hc, content, rfl⟩

/-! radii too small for the chord: findEllipseCenter / SVG F.6.6 -/

theorem mul_self_nonneg (a : Rat) : 0 ≤ a * a := by
  by_cases h : 0 ≤ a
  · exact Rat.mul_nonneg h h
  · have h' : 0 ≤ -a := by grind
    have := Rat.mul_nonneg h' h'
    grind

theorem sq_ne (rb m sq : Rat) (h1 : sq * sq = m) (h2 : rb * rb < m) : sq ≠ 0 := by
  intro h
  subst h
  have : (0 : Rat) ≤ rb * rb := mul_self_nonneg rb
  grind

end WR.C18.Lemmas
