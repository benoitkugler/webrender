/-
  C04 — for `get_cache_transparent`: every nested `Get` of the cached state machine returns the value of the
  pure definition and keeps the invariant "cache ⊆ graph of `computed`".  First the equations of `computed` /
  `nodePure` that the defaulting theorems use as well.
-/
import WR.C04.Spec
namespace WR.C04

/-- proved for the regenerated table in `WR.Props.C04.gen_table_wf` -/
structure Table.WF (T : Table) : Prop where
  fontSize_ck : T.ck T.pFontSize = .fontSize
  /-- borderWidth reads "the property just before", which must be a plain (computer-less) one -/
  borderStyle_ck : ∀ p, T.ck p = .borderWidth → T.ck (p - 1) = .none

variable (T : Table)

def Good (st : State) (s : List Node) : Prop := ∀ p v, st s p = some v → v = computed T s p

def InvOn (c : List Node) (st : State) : Prop := ∀ s, s <:+ c → Good T st s

def Frame (c : List Node) (st st' : State) : Prop := ∀ s, ¬ s <:+ c → ∀ p, st' s p = st s p

def OK {α : Type} (key : List Node) (a : State → State × α) (val : α) : Prop :=
  ∀ st, InvOn T key st → (a st).2 = val ∧ InvOn T key (a st).1 ∧ Frame key st (a st).1

variable {T}

theorem computed_cons (n : Node) (rest : List Node) (p : Nat) :
    computed T (n :: rest) p = nodePure T (ctxOf T rest) n p := by
  cases rest <;> rfl

/-- a ComputedStyle (every style without parent is one) -/
theorem nodePure_comp {c : Ctx} {n : Node} (h : n.anon = false ∨ c.par = none) (p : Nat) :
    nodePure T c n p =
      if (preValue T c n p).2 then computePure T c n p (preValue T c n p).1 else (preValue T c n p).1 := by
  unfold nodePure
  rcases h with h | h <;> rw [h]
  cases n.anon <;> rfl

theorem nodePure_anon {f : Nat → Val} {r : Val} {n : Node} (h : n.anon = true) (p : Nat) :
    nodePure T ⟨some f, r⟩ n p = anonPure T f p := by
  simp only [nodePure, h]

/-- the two propagated families: text-decoration-*, `page` -/
theorem specialPure_none (c : Ctx) (n : Node) {p : Nat} (v : Val)
    (htd : T.tdKind p = 0) (hpage : p ≠ T.pPage) : specialPure T c n p v = none := by
  unfold specialPure
  cases c.par <;> simp [htd, hpage]

theorem Good.of_eq {st st' : State} {s : List Node} (h : Good T st s)
    (heq : ∀ p, st' s p = st s p) : Good T st' s :=
  fun p v hv => h p v (heq p ▸ hv)

theorem Frame.refl (c : List Node) (st : State) : Frame c st st := fun _ _ _ => rfl

theorem Frame.trans {c : List Node} {a b d : State} (h1 : Frame c a b) (h2 : Frame c b d) : Frame c a d :=
  fun s hs p => by rw [h2 s hs p, h1 s hs p]

theorem set_same (st : State) (c : List Node) (p : Nat) (v : Val) : (st.set c p v) c p = some v := by
  simp [State.set]

theorem set_other {st : State} {c c' : List Node} {p p' : Nat} {v : Val} (h : ¬ (p' = p ∧ c' = c)) :
    (st.set c p v) c' p' = st c' p' := by
  simp [State.set, h]

theorem del_same (st : State) (c : List Node) (p : Nat) : (st.del c p) c p = none := by
  simp [State.del]

theorem del_other {st : State} {c c' : List Node} {p p' : Nat} (h : ¬ (p' = p ∧ c' = c)) :
    (st.del c p) c' p' = st c' p' := by
  simp [State.del, h]

theorem InvOn.set {key : List Node} {st : State} (h : InvOn T key st) (p : Nat) (v : Val)
    (hv : v = computed T key p) : InvOn T key (st.set key p v) := by
  intro s hs p' v' hst
  by_cases hc : p' = p ∧ s = key
  · obtain ⟨rfl, rfl⟩ := hc
    rw [set_same] at hst; cases hst; exact hv
  · rw [set_other hc] at hst; exact h s hs p' v' hst

theorem InvOn.del {key : List Node} {st : State} (h : InvOn T key st) (c : List Node) (p : Nat) :
    InvOn T key (st.del c p) := by
  intro s hs p' v' hst
  by_cases hc : p' = p ∧ s = c
  · obtain ⟨rfl, rfl⟩ := hc
    rw [del_same] at hst; cases hst
  · rw [del_other hc] at hst; exact h s hs p' v' hst

theorem Frame.set (key : List Node) (st : State) (p : Nat) (v : Val) : Frame key st (st.set key p v) := by
  intro s hs p'
  apply set_other; rintro ⟨_, rfl⟩; exact hs (List.suffix_refl _)

theorem Frame.del (key : List Node) (st : State) (p : Nat) : Frame key st (st.del key p) := by
  intro s hs p'
  apply del_other; rintro ⟨_, rfl⟩; exact hs (List.suffix_refl _)

theorem OK.pure {α : Type} (key : List Node) (v : α) : OK T key (fun st => (st, v)) v :=
  fun _ h => ⟨rfl, h, Frame.refl _ _⟩

theorem OK.map {α β : Type} {key : List Node} {a : State → State × α} {v : α} (ha : OK T key a v)
    (h : α → β) : OK T key (fun st => ((a st).1, h (a st).2)) (h v) := by
  intro st hst
  obtain ⟨e, i, f⟩ := ha st hst
  exact ⟨congrArg h e, i, f⟩

theorem OK.seq {α β γ : Type} {key : List Node} {a : State → State × α} {b : State → State × β}
    {va : α} {vb : β} (ha : OK T key a va) (hb : OK T key b vb) (h : α → β → γ) :
    OK T key (fun st => ((b (a st).1).1, h (a st).2 (b (a st).1).2)) (h va vb) := by
  intro st hst
  obtain ⟨ea, ia, fa⟩ := ha st hst
  obtain ⟨eb, ib, fb⟩ := hb _ ia
  exact ⟨by rw [← ea, ← eb], ib, fa.trans fb⟩

theorem OK.store {key : List Node} {a : State → State × Val} {v : Val} (ha : OK T key a v) (p : Nat)
    (hv : v = computed T key p) :
    OK T key (fun st => ((a st).1.set key p (a st).2, (a st).2)) v := by
  intro st hst
  obtain ⟨e, i, f⟩ := ha st hst
  exact ⟨e, InvOn.set i p _ (e.trans hv), f.trans (Frame.set _ _ _ _)⟩

theorem OK.lift {α : Type} {sub key : List Node} {a : State → State × α} {v : α}
    (hsub : sub <:+ key) (ha : OK T sub a v) : OK T key a v := by
  intro st h
  have hs : InvOn T sub st := fun s hs => h s (hs.trans hsub)
  obtain ⟨e, i, f⟩ := ha st hs
  refine ⟨e, ?_, ?_⟩
  · intro s hsk
    by_cases hss : s <:+ sub
    · exact i s hss
    · exact (h s hsk).of_eq (f s hss)
  · intro s hsk p; exact f s (fun hss => hsk (hss.trans hsub)) p

structure Env (T : Table) (g : Getters) (c : Ctx) (key : List Node) (n : Node) : Prop where
  wf : T.WF
  /-- the parent's `Get` only looks at (and writes to) proper ancestors of `key`: it may be called
      while a value sits in the cache of `key` out of turn (text-decoration / page) -/
  parStrict : match g.par, c.par with
    | some pg, some f => ∀ p st, (∀ s, s <:+ key → s ≠ key → Good T st s) →
        (pg st p).2 = f p ∧ (∀ s, s <:+ key → s ≠ key → Good T (pg st p).1 s) ∧
        (∀ q, (pg st p).1 key q = st key q) ∧ Frame key st (pg st p).1
    | none, none => True
    | _, _ => False
  root : OK T key g.root c.rootFS
  hkey : ∀ p, computed T key p =
    (if (preValue T c n p).2 then computePure T c n p (preValue T c n p).1 else (preValue T c n p).1)

theorem Env.isNone {g : Getters} {c : Ctx} {key : List Node} {n : Node} (e : Env T g c key n) :
    g.par.isNone = c.par.isNone := by
  have := e.parStrict
  cases hg : g.par <;> cases hc : c.par <;> simp only [hg, hc] at this <;> rfl

theorem Env.par {g : Getters} {c : Ctx} {key : List Node} {n : Node} (e : Env T g c key n) :
    match g.par, c.par with
    | some pg, some f => ∀ p, OK T key (fun st => pg st p) (f p)
    | none, none => True
    | _, _ => False := by
  have hp := e.parStrict
  cases hg : g.par <;> cases hc : c.par <;> simp only [hg, hc] at hp ⊢
  · intro p st h
    obtain ⟨e1, i1, k1, f1⟩ := hp p st (fun s hs _ => h s hs)
    refine ⟨e1, ?_, f1⟩
    intro s hs
    by_cases hsk : s = key
    · subst hsk; exact (h _ hs).of_eq k1
    · exact i1 s hs hsk

section
variable {g : Getters} {c : Ctx} {key : List Node} {n : Node} (e : Env T g c key n)
include e

theorem pfsGet_ok (v : Val) : OK T key (pfsGet T g v) (pfsArg T c v) := by
  unfold pfsGet pfsArg
  have hp := e.par
  split
  · cases hg : g.par <;> cases hc : c.par <;> simp only [hg, hc] at hp ⊢
    · exact OK.pure _ _
    · exact hp _
  · exact OK.pure _ _

theorem rootGet_ok (v : Val) : OK T key (rootGet g v) (rootArg c v) := by
  unfold rootGet rootArg
  split
  · exact e.root
  · exact OK.pure _ _

theorem cascadeValue_ok (p : Nat) (st : State) (h : InvOn T key st) :
    ((cascadeValue T g n p st).2.1, !(cascadeValue T g n p st).2.2) = rawValue T c n p ∧
    InvOn T key (cascadeValue T g n p st).1 ∧ Frame key st (cascadeValue T g n p st).1 := by
  unfold cascadeValue rawValue
  rw [e.isNone]
  have hp := e.par
  split
  · simp [h, Frame.refl]
  · cases hg : g.par <;> cases hc : c.par <;> simp only [hg, hc] at hp ⊢
    · simp [h, Frame.refl]
    · obtain ⟨e1, i1, f1⟩ := hp p st h
      simp only [Bool.not_true]
      exact ⟨by rw [e1], i1, f1⟩
  · simp [h, Frame.refl]

/-- the special cases: the parent is read while `key`'s own cache may hold an out-of-turn value -/
theorem specialGet_ok (p : Nat) (value : Val) (st : State)
    (h : ∀ s, s <:+ key → s ≠ key → Good T st s) :
    match specialGet T g n p value st, specialPure T c n p value with
    | some r, some v => r.2 = v ∧ (∀ s, s <:+ key → s ≠ key → Good T r.1 s) ∧
        (∀ q, r.1 key q = st key q) ∧ Frame key st r.1
    | none, none => True
    | _, _ => False := by
  have hps := e.parStrict
  unfold specialGet specialPure
  cases hg : g.par <;> cases hc : c.par <;> simp only [hg, hc] at hps ⊢
  · by_cases hpage : p = T.pPage ∧ value = .kw "auto"
    · simp only [hpage, and_self, if_true]
      exact ⟨trivial, h, fun _ => trivial, Frame.refl _ _⟩
    · simp only [hpage, if_false]
  · rename_i pg f
    by_cases htd : T.tdKind p ≠ 0
    · simp only [htd, if_true, ne_eq, not_false_eq_true]
      obtain ⟨e1, i1, k1, f1⟩ := hps p st h
      exact ⟨by rw [e1], i1, k1, f1⟩
    · simp only [htd, if_false]
      by_cases hpage : p = T.pPage ∧ value = .kw "auto"
      · simp only [hpage, and_self, if_true]
        exact hps T.pPage st h
      · simp only [hpage, if_false]

theorem getPre_ok (p : Nat) (st : State) (h : InvOn T key st) (hmiss : st key p = none) :
    ((getPre T g key n p st).2.1, (getPre T g key n p st).2.2) = preValue T c n p ∧
    InvOn T key (getPre T g key n p st).1 ∧ Frame key st (getPre T g key n p st).1 := by
  obtain ⟨hraw, hi, hf⟩ := cascadeValue_ok e p st h
  have hk := e.hkey p
  have hps := e.parStrict
  have hmiss1 : (cascadeValue T g n p st).1 key p = none := by
    -- the parent's Get does not write into the child's cache
    unfold cascadeValue
    split
    · exact hmiss
    · cases hg : g.par <;> cases hc : c.par <;> simp only [hg, hc] at hps ⊢
      · exact hmiss
      · have := (hps p st (fun s hs _ => h s hs)).2.2.1 p
        rw [this]; exact hmiss
    · exact hmiss
  unfold getPre preValue
  unfold preValue at hk
  generalize hcv : cascadeValue T g n p st = cv at *
  obtain ⟨st0, value, save⟩ := cv
  simp only at hraw hi hf hmiss1 ⊢
  rw [← hraw] at hk ⊢
  simp only at hk ⊢
  -- st1: the state after the optional save
  generalize hst1 : (if save = true then st0.set key p value else st0) = st1
  have hst1_inv : ∀ s, s <:+ key → s ≠ key → Good T st1 s := by
    intro s hs hne
    subst hst1
    split
    · exact (hi s hs).of_eq fun q => set_other (fun hh => hne hh.2)
    · exact hi s hs
  have hst1_key : ∀ q, q ≠ p → st1 key q = st0 key q := by
    intro q hq; subst hst1; split
    · exact set_other (fun hh => hq hh.1)
    · rfl
  have hst1_frame : Frame key st st1 := by
    subst hst1
    split
    · exact hf.trans (Frame.set _ _ _ _)
    · exact hf
  have hsp := specialGet_ok e p value st1 hst1_inv
  cases hsg : specialGet T g n p value st1 <;> cases hspp : specialPure T c n p value <;>
    simp only [hsg, hspp] at hsp hk ⊢
  · -- no special case
    subst hst1
    cases save
    · simp only [Bool.false_eq_true, if_false, hmiss1, Bool.not_false]
      exact ⟨trivial, hi, hf⟩
    · simp only [if_true, set_same, Bool.not_true]
      simp only [Bool.not_true, Bool.false_eq_true, if_false] at hk
      exact ⟨trivial, InvOn.set hi _ _ hk.symm, hf.trans (Frame.set _ _ _ _)⟩
  · -- a special case: the value is replaced, the cache entry deleted
    rename_i r v
    obtain ⟨e1, i1, k1, f1⟩ := hsp
    simp only [del_same]
    refine ⟨by rw [e1], ?_, (hst1_frame.trans f1).trans (Frame.del _ _ _)⟩
    intro s hs
    by_cases hsk : s = key
    · -- at `key`: the entry for `p` is gone, the others are those of `st0`
      subst hsk
      intro q v' hq
      by_cases hqp : q = p
      · subst hqp; rw [del_same] at hq; cases hq
      · rw [del_other (fun hh => hqp hh.1), k1 q, hst1_key q hqp] at hq
        exact hi _ hs q v' hq
    · exact (i1 s hs hsk).of_eq fun q => del_other (fun hh => hsk hh.2)

theorem computed_fontSize : computed T key T.pFontSize = fontSizePure T c n := by
  rw [e.hkey]
  unfold fontSizePure computePure
  rw [e.wf.fontSize_ck]

/-- A hit returns the cached value, which the invariant says is the computed one.  `compGet`, `fontSizeGet`
    and `plainGet` are this with their respective `f`. -/
theorem cached_ok (p : Nat) {f : Val → State → State × Val} {fp : Val → Val}
    (hf : ∀ v, OK T key (f v) (fp v))
    (hk : computed T key p =
      if (preValue T c n p).2 then fp (preValue T c n p).1 else (preValue T c n p).1) :
    OK T key (fun st => match st key p with
      | some v => (st, v)
      | none =>
        let r := getPre T g key n p st
        if r.2.2 then
          let o := f r.2.1 r.1
          (o.1.set key p o.2, o.2)
        else (r.1, r.2.1)) (computed T key p) := by
  intro st h
  cases hm : st key p with
  | some v =>
    simp only [hm]
    exact ⟨h key (List.suffix_refl _) _ v hm, h, Frame.refl _ _⟩
  | none =>
    simp only [hm]
    obtain ⟨hpv, hi, hf'⟩ := getPre_ok e p st h hm
    rw [← hpv] at hk
    generalize getPre T g key n p st = r at *
    obtain ⟨st1, v, need⟩ := r
    simp only at hi hf' hk ⊢
    cases need
    · simp only [Bool.false_eq_true, if_false] at hk ⊢
      exact ⟨hk.symm, hi, hf'⟩
    · simp only [if_true] at hk ⊢
      obtain ⟨eo, io, fo⟩ := (hf v).store p hk.symm st1 hi
      exact ⟨eo.trans hk.symm, io, hf'.trans fo⟩

theorem fontSizeGet_ok : OK T key (fontSizeGet T g key n) (fontSizePure T c n) :=
  computed_fontSize e ▸ cached_ok e T.pFontSize
    (fun v => OK.seq (pfsGet_ok e v) (rootGet_ok e v) (fontSizeArith T n v)) (computed_fontSize e)

theorem fsGet_ok (v : Val) : OK T key (fsGet T g key n v) (fsArg T c n v) := by
  unfold fsGet fsArg
  split
  · exact fontSizeGet_ok e
  · exact OK.pure _ _

theorem plainGet_ok (p : Nat) (hck : T.ck p = .none) :
    OK T key (plainGet T g key n p) (plainPure T c n p) := by
  have hk : computed T key p = plainPure T c n p := by
    rw [e.hkey]; unfold computePure plainPure; rw [hck]; simp
  exact hk ▸ cached_ok e p (fun v => OK.pure key v) (by rw [hk, plainPure]; simp)

theorem rootGetL_ok (v : Val) : OK T key (rootGetL T g key n v) (rootArgL T c n v) := by
  unfold rootGetL rootArgL
  have hp := e.par
  split
  · cases hg : g.par <;> cases hc : c.par <;> simp only [hg, hc] at hp ⊢
    · exact fontSizeGet_ok e
    · exact e.root
  · exact OK.pure _ _

theorem lengthGet_ok (p : Nat) (v : Val) (po : Bool) :
    OK T key (lengthGet T g key n p v po) (lengthPure T c n p v po) :=
  OK.seq (fsGet_ok e v) (rootGetL_ok e v) (lengthArith p n v · · po)

theorem computeGet_ok (p : Nat) (v : Val) :
    OK T key (computeGet T g key n p v) (computePure T c n p v) := by
  unfold computeGet computePure
  cases hck : T.ck p <;> simp only
  · exact OK.pure _ _
  · exact lengthGet_ok e p v false
  · split
    · exact OK.pure _ _
    · exact lengthGet_ok e p v true
  · -- borderWidth: the border style first; it decides whether `length_` is reached
    intro st h
    obtain ⟨es, is, fs⟩ := plainGet_ok e (p - 1) (e.wf.borderStyle_ck p hck) st h
    dsimp only
    rw [es]
    split
    · obtain ⟨eo, io, fo⟩ := OK.seq (fsGet_ok e v) (rootGetL_ok e v)
        (borderWidthArith T p n v (plainPure T c n (p - 1))) _ is
      exact ⟨eo, io, fs.trans fo⟩
    · exact ⟨rfl, is, fs⟩
  · -- fontSize
    exact OK.seq (pfsGet_ok e v) (rootGet_ok e v) (fontSizeArith T n v)
  · -- fontWeight
    unfold pwArg
    have hp := e.par
    split
    · cases hg : g.par <;> cases hc : c.par <;> simp only [hg, hc] at hp ⊢
      · exact OK.pure _ _
      · exact (hp T.pFontWeight).map (fontWeightArith T n v)
    · exact OK.pure _ _
  · -- lineHeight
    split
    · exact (fontSizeGet_ok e).map (lineHeightArith p n v · (.init 0))
    · exact OK.seq (fsGet_ok e v) (rootGetL_ok e v) (lineHeightArith p n v)
  · split
    · exact OK.pure _ _
    · exact lengthGet_ok e p v false
  · split
    · split
      · exact OK.pure _ _
      · exact lengthGet_ok e p _ false
    · exact lengthGet_ok e p _ false
  · split
    · exact OK.pure _ _
    · exact lengthGet_ok e p v false
  · exact OK.pure _ _

theorem compGet_ok (p : Nat) : OK T key (compGet T g key n p) (computed T key p) :=
  cached_ok e p (computeGet_ok e p) (e.hkey p)

end

theorem anonGet_ok {key : List Node} {pg : State → Nat → State × Val} {f : Nat → Val}
    (hp : ∀ p, OK T key (fun st => pg st p) (f p))
    (hk : ∀ p, computed T key p = anonPure T f p) (p : Nat) :
    OK T key (anonGet T pg key p) (computed T key p) := by
  intro st h
  unfold anonGet
  cases hm : st key p with
  | some v =>
    simp only
    exact ⟨h key (List.suffix_refl _) _ v hm, h, Frame.refl _ _⟩
  | none =>
    simp only
    have hkp := hk p
    unfold anonPure at hkp
    -- the case distinction of `anonPure`; in each case a step that returns the computed value,
    -- which is stored
    by_cases hseed : T.anonSeed p = true
    · simp only [hseed, if_true] at hkp ⊢
      rw [hkp]; exact (OK.pure key _).store p hkp.symm st h
    · simp only [hseed, if_false, Bool.false_eq_true] at hkp ⊢
      by_cases hinh : T.inherited p = true ∨ p = T.pPage
      · have hv : computed T key p = f p := by
          rcases hinh with hi | hpg
          · simpa only [hi, if_true] using hkp
          · simpa only [hpg, if_true, ite_self] using hkp
        simp only [hinh, if_true]
        rw [hv]; exact (hp p).store p hv.symm st h
      · have hi : ¬ T.inherited p = true := fun x => hinh (Or.inl x)
        have hpg : ¬ p = T.pPage := fun x => hinh (Or.inr x)
        simp only [hinh, if_false]
        simp only [hi, hpg, if_false, Bool.false_eq_true] at hkp
        by_cases htd : T.tdKind p ≠ 0
        · simp only [htd, if_true, ne_eq, not_false_eq_true] at hkp ⊢
          rw [hkp]
          exact ((hp p).map (textDecoration (T.tdKind p) (T.initVal p) · false)).store p hkp.symm st h
        · simp only [htd, if_false] at hkp ⊢
          rw [hkp]; exact (OK.pure key _).store p hkp.symm st h

def GetSpec (T : Table) (c : List Node) : Prop :=
  ∀ p, OK T c (fun st => get T c st p) (computed T c p)

theorem not_cons_suffix (n : Node) (c : List Node) : ¬ (n :: c) <:+ c := by
  intro h
  have := h.length_le
  simp only [List.length_cons] at this
  omega

theorem rootOf_suffix (m : Node) (rest : List Node) : [rootOf m rest] <:+ m :: rest := by
  induction rest generalizing m with
  | nil => exact List.suffix_refl _
  | cons a rest ih => exact (ih a).trans (List.suffix_cons m (a :: rest))

theorem get_single (hT : T.WF) (n : Node) : GetSpec T [n] := by
  intro p st h
  have e : Env T (rootGetters T) (rootCtx T) [n] n :=
    { wf := hT
      parStrict := by simp [rootGetters, rootCtx]
      root := OK.pure _ _
      hkey := fun p => (computed_cons n [] p).trans (nodePure_comp (.inr rfl) p) }
  have := compGet_ok e p st h
  show (nodeGet T (rootGetters T) [n] n p st).2 = _ ∧ InvOn T [n] (nodeGet T (rootGetters T) [n] n p st).1 ∧
    Frame [n] st (nodeGet T (rootGetters T) [n] n p st).1
  unfold nodeGet
  cases n.anon <;> simpa [rootGetters] using this

/-- in the form `Env.parStrict` wants -/
theorem strict_of_spec {n : Node} {c : List Node} (hs : GetSpec T c) (p : Nat) (st : State)
    (h : ∀ s, s <:+ n :: c → s ≠ n :: c → Good T st s) :
    (get T c st p).2 = computed T c p ∧ (∀ s, s <:+ n :: c → s ≠ n :: c → Good T (get T c st p).1 s) ∧
    (∀ q, (get T c st p).1 (n :: c) q = st (n :: c) q) ∧ Frame (n :: c) st (get T c st p).1 := by
  have hc : InvOn T c st := by
    intro s hsc
    refine h s (hsc.trans (List.suffix_cons n c)) ?_
    rintro rfl; exact not_cons_suffix n c hsc
  obtain ⟨e1, i1, f1⟩ := hs p st hc
  refine ⟨e1, ?_, fun q => f1 _ (not_cons_suffix n c) q, fun s hsk q => f1 s (fun hh => hsk (hh.trans (List.suffix_cons n c))) q⟩
  intro s hs' hne
  rcases List.suffix_cons_iff.mp hs' with rfl | hsc
  · exact (hne rfl).elim
  · exact i1 s hsc

theorem get_ok (hT : T.WF) : ∀ c, GetSpec T c := by
  intro c
  induction c with
  | nil => exact fun p => OK.pure _ _
  | cons n rest ih =>
    cases rest with
    | nil => exact get_single hT n
    | cons m rest =>
      intro p st h
      let g : Getters := { par := some (get T (m :: rest)),
                           root := fun st => nodeGet T (rootGetters T) [rootOf m rest] (rootOf m rest) T.pFontSize st }
      let c : Ctx := { par := some (computed T (m :: rest)),
                       rootFS := nodePure T (rootCtx T) (rootOf m rest) T.pFontSize }
      have hroot : OK T (n :: m :: rest) g.root c.rootFS :=
        OK.lift ((rootOf_suffix m rest).trans (List.suffix_cons n _))
          (get_single hT (rootOf m rest) T.pFontSize)
      have hpar : ∀ p, OK T (n :: m :: rest) (fun st => get T (m :: rest) st p) (computed T (m :: rest) p) :=
        fun p => OK.lift (List.suffix_cons n _) (ih p)
      show (nodeGet T g (n :: m :: rest) n p st).2 = computed T (n :: m :: rest) p ∧
        InvOn T (n :: m :: rest) (nodeGet T g (n :: m :: rest) n p st).1 ∧
        Frame (n :: m :: rest) st (nodeGet T g (n :: m :: rest) n p st).1
      unfold nodeGet
      cases hanon : n.anon
      · -- a ComputedStyle
        have e : Env T g c (n :: m :: rest) n :=
          { wf := hT
            parStrict := fun p st h => strict_of_spec ih p st h
            root := hroot
            hkey := fun p => (computed_cons n _ p).trans (nodePure_comp (.inl hanon) p) }
        simpa [g] using compGet_ok e p st h
      · -- an AnonymousStyle
        have hk : ∀ p, computed T (n :: m :: rest) p = anonPure T (computed T (m :: rest)) p :=
          fun p => (computed_cons n _ p).trans (nodePure_anon hanon p)
        simpa [g] using anonGet_ok hpar hk p st h

end WR.C04
