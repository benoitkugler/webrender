/-
  C04 — the unit factors of the generic traversal (WR/C04/Lengths.lean) and the scalar `length_` of the model
  (`lengthArith`) on each kind of unit.
-/
import WR.C04.Lengths
namespace WR.C04

theorem unitFactor_isSome_congr (c c' : FontCtx) (u : Nat) :
    (unitFactor c u).isSome = (unitFactor c' u).isSome := by
  unfold unitFactor
  cases pxPer u <;> simp only [apply_ite Option.isSome, Option.isSome_some]

theorem unitFactor_some_iff (c : FontCtx) (u : Nat) : (unitFactor c u).isSome = isLengthUnit u := by
  rw [unitFactor_isSome_congr c ⟨0, 0, 0, 0⟩]
  by_cases hu : u < 14
  · exact (by decide +kernel : ∀ v < 14, (unitFactor ⟨0, 0, 0, 0⟩ v).isSome = isLengthUnit v) u hu
  · -- above the unit codes every test `u = …` fails
    obtain ⟨k, rfl⟩ := Nat.exists_eq_add_of_le' (Nat.not_lt.mp hu)
    simp [unitFactor, pxPer, isLengthUnit, uPx, uPt, uPc, uIn, uCm, uMm, uQ, uEm, uEx, uCh, uRem]

theorem computeLengths_len (c : FontCtx) (x : Rat) (u : Nat) :
    (isLengthUnit u = true ∧ ∃ f, computeLengths c (.len x u) = .len (x * f) uPx) ∨
    (isLengthUnit u = false ∧ computeLengths c (.len x u) = .len x u) := by
  rw [← unitFactor_some_iff c u, computeLengths]
  cases unitFactor c u with
  | some f => exact .inl ⟨rfl, f, rfl⟩
  | none => exact .inr ⟨rfl, rfl⟩

theorem unitFactor_px (c : FontCtx) : unitFactor c uPx = some 1 := by simp [unitFactor]

theorem unitFactor_fontFree (c₁ c₂ : FontCtx) (u : Nat) (h : isFontRelative u = false) :
    unitFactor c₁ u = unitFactor c₂ u := by
  unfold unitFactor
  simp only [isFontRelative, Bool.or_eq_false_iff, decide_eq_false_iff_not] at h
  obtain ⟨⟨⟨h1, h2⟩, h3⟩, h4⟩ := h
  simp [h1, h2, h3, h4]

theorem lengthArith_em_ex_ch (p : Nat) (n : Node) (x f : Rat) (fs rfs : Val) (po : Bool)
    (hx : x ≠ 0) (hf : fs.num? = some f) :
    lengthArith p n (.dim x uEm) fs rfs po = asPixels (x * f) po ∧
    lengthArith p n (.dim x uEx) fs rfs po = asPixels (x * f * n.exR) po ∧
    lengthArith p n (.dim x uCh) fs rfs po = asPixels (x * f * n.chR) po := by
  simp +decide [lengthArith, pxPer, hx, hf]

theorem lengthArith_rem (p : Nat) (n : Node) (x f : Rat) (fs rfs : Val) (po : Bool)
    (hx : x ≠ 0) (hf : rfs.num? = some f) :
    lengthArith p n (.dim x uRem) fs rfs po = asPixels (x * f) po := by
  simp +decide [lengthArith, pxPer, hx, hf]

theorem lengthArith_dim (p : Nat) (n : Node) (x f rf : Rat) (u uf ur : Nat) (po : Bool) (hx : x ≠ 0) :
    lengthArith p n (.dim x u) (.dim f uf) (.dim rf ur) po =
      match unitFactor ⟨f, rf, n.exR, n.chR⟩ u with
      | some k => asPixels (x * k) po
      | none => .dim x u := by
  simp only [lengthArith, unitFactor, if_neg hx]
  by_cases hpx : u = uPx
  · simp only [hpx, if_true, Rat.mul_one]
  · simp only [hpx, if_false]
    cases pxPer u with
    | some r => rfl
    | none => simp only [Val.num?, apply_ite (fun o : Option Rat => match o with
      | some k => asPixels (x * k) po
      | none => Val.dim x u), Rat.mul_assoc]

end WR.C04
