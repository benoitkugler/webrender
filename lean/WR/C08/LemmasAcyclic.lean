/-
  C08 — acyclic environments: the cycle guard (in-progress set + erased bindings) never changes a result.
-/
import WR.C08.Lemmas
namespace WR.C08

mutual
  /-- custom properties a token refers to, as the MODEL reads references (over-approximation:
      references inside functions ParseFunction rejects are listed too) -/
  def mrefs : Tok → List String
    | .fn name args =>
      (match parseArgs args false with
       | some (.ident v :: _) => if lower name = "var" then [v] else []
       | _ => []) ++ mrefsL args
    | _ => []
  def mrefsL : List Tok → List String
    | [] => []
    | t :: rest => mrefs t ++ mrefsL rest
end

def Acyclic (E : Bindings) (rk : String → Nat) : Prop :=
  ∀ v l, E.lookup v = some l → ∀ w ∈ mrefsL l, rk w < rk v

theorem mem_of_lookup {α β : Type} [BEq α] [LawfulBEq α] {a : α} {b : β} :
    ∀ {l : List (α × β)}, l.lookup a = some b → (a, b) ∈ l
  | (k, x) :: rest, h => by
    rw [List.lookup] at h
    split at h
    · next hk => cases h; rw [eq_of_beq hk]; exact List.mem_cons_self
    · exact List.mem_cons_of_mem _ (mem_of_lookup h)

theorem acyclic_of_forall {E : Bindings} {rk : String → Nat} (h : ∀ p ∈ E, ∀ w ∈ mrefsL p.2, rk w < rk p.1) :
    Acyclic E rk := fun v l hl => h (v, l) (mem_of_lookup hl)

def AgreeBelow (rk : String → Nat) (n : Nat) (E e : Bindings) : Prop :=
  ∀ w, rk w < n → e.lookup w = E.lookup w

def SameBelow (rk : String → Nat) (n : Nat) (ip₁ ip₂ : List String) : Prop :=
  ∀ u, rk u < n → ip₁.contains u = ip₂.contains u

/-- what the induction over the rank provides for smaller ranks -/
def ListIndep (E : Bindings) (rk : String → Nat) (m : Nat) : Prop :=
  ∀ e₁ e₂ ip₁ ip₂, AgreeBelow rk m E e₁ → AgreeBelow rk m E e₂ → SameBelow rk m ip₁ ip₂ →
    ∀ ts, (∀ w ∈ mrefsL ts, rk w < m) → resList (expandVar e₁) ip₁ ts = resList (expandVar e₂) ip₂ ts

theorem lookup_without_ne (e : Bindings) (v w : String) (h : w ≠ v) :
    (e.without v).lookup w = e.lookup w := by
  induction e with
  | nil => rfl
  | cons p rest ih =>
    obtain ⟨k, x⟩ := p
    by_cases hk : k = v
    · subst hk
      have : (w == k) = false := by simpa using h
      simp [Bindings.without, List.filter, List.lookup, this] at ih ⊢
      exact ih
    · have hkv : (k != v) = true := by simpa using hk
      simp only [Bindings.without, List.filter, hkv, List.lookup] at ih ⊢
      cases hw : (w == k) <;> simp [ih]

theorem sameBelow_cons {rk : String → Nat} {n : Nat} {ip₁ ip₂ : List String} (v : String)
    (h : SameBelow rk n ip₁ ip₂) : SameBelow rk n (v :: ip₁) (v :: ip₂) := by
  intro u hu
  simp only [List.contains_cons]
  rw [h u hu]

theorem AgreeBelow.without {rk : String → Nat} {n : Nat} {E e : Bindings} {v : String} (h : AgreeBelow rk n E e)
    (hv : rk v < n) : AgreeBelow rk (rk v) E (e.without v) := by
  intro w hw
  rw [lookup_without_ne e v w (fun h => Nat.lt_irrefl _ (h ▸ hw))]
  exact h w (Nat.lt_trans hw hv)

section indep
variable (E : Bindings) (rk : String → Nat) (hE : Acyclic E rk) (n : Nat)
  (IH : ∀ m, m < n → ListIndep E rk m)
  (e₁ e₂ : Bindings) (ha₁ : AgreeBelow rk n E e₁) (ha₂ : AgreeBelow rk n E e₂)

include hE IH ha₁ ha₂ in
mutual
  /-- Below rank `n`, the result depends on the bindings and on the in-progress set only through the custom
      properties ranked below `n`: a reference to `v` is cut alike, and the value of `v` refers to lower ranks only
      (`IH`). -/
  theorem tok_indep (ip₁ ip₂ : List String) (hs : SameBelow rk n ip₁ ip₂) :
      ∀ t, (∀ w ∈ mrefs t, rk w < n) → resTok (expandVar e₁) ip₁ t = resTok (expandVar e₂) ip₂ t
    | .fn name args, hr => by
      have hargsr : ∀ w ∈ mrefsL args, rk w < n := fun w hw => hr w (by simp [mrefs, hw])
      cases hv : hasVar (.fn name args) with
      | false => rw [resTok_plain _ _ _ hv, resTok_plain _ _ _ hv]
      | true =>
        by_cases hn : lower name = "var"
        · rw [resTok_var_of_hasVar _ _ hv hn, resTok_var_of_hasVar _ _ hv hn]
          split
          · next v rest hp =>
            have hvr : rk v < n := hr v (by simp [mrefs, hp, hn])
            rw [hs v hvr, fb_indep (v :: ip₁) (v :: ip₂) (sameBelow_cons v hs) args false hargsr]
            -- the value of `v`, when it has one: by the induction over the rank
            suffices h : expandVar e₁ v (v :: ip₁) = expandVar e₂ v (v :: ip₂) by rw [h]
            rw [expandVar_eq, expandVar_eq, ha₁ v hvr, ha₂ v hvr]
            cases hEl : E.lookup v with
            | none => rfl
            | some l =>
              dsimp only
              split
              · rfl
              · rw [IH (rk v) hvr (e₁.without v) (e₂.without v) (v :: ip₁) (v :: ip₂) (ha₁.without hvr) (ha₂.without hvr)
                  (sameBelow_cons v fun u hu => hs u (Nat.lt_trans hu hvr)) l (hE v l hEl)]
          · rfl
        · rw [resTok_fn _ _ hv hn, resTok_fn _ _ hv hn, list_indep ip₁ ip₂ hs args hargsr]
    | .ws, _ | .comment _, _ | .ident _, _ | .lit _, _ | .num _, _ | .dim _ _, _ | .other _ _, _ => rfl
  theorem list_indep (ip₁ ip₂ : List String) (hs : SameBelow rk n ip₁ ip₂) :
      ∀ ts, (∀ w ∈ mrefsL ts, rk w < n) → resList (expandVar e₁) ip₁ ts = resList (expandVar e₂) ip₂ ts
    | [], _ => rfl
    | t :: rest, hr => by
      rw [resList_cons, resList_cons, tok_indep ip₁ ip₂ hs t (fun w hw => hr w (by simp [mrefsL, hw])),
        list_indep ip₁ ip₂ hs rest (fun w hw => hr w (by simp [mrefsL, hw]))]
  theorem fb_indep (ip₁ ip₂ : List String) (hs : SameBelow rk n ip₁ ip₂) :
      ∀ ts (b : Bool), (∀ w ∈ mrefsL ts, rk w < n) →
        resFallback (expandVar e₁) ip₁ ts b = resFallback (expandVar e₂) ip₂ ts b
    | [], _, _ => by simp [resFallback]
    | t :: rest, b, hr => by
      have h1 := tok_indep ip₁ ip₂ hs t (fun w hw => hr w (by simp [mrefsL, hw]))
      have h2 : ∀ b', resFallback (expandVar e₁) ip₁ rest b' = resFallback (expandVar e₂) ip₂ rest b' :=
        fun b' => fb_indep ip₁ ip₂ hs rest b' (fun w hw => hr w (by simp [mrefsL, hw]))
      cases t <;> simp [resFallback, h1, h2]
end
end indep

theorem listIndep_all (E : Bindings) (rk : String → Nat) (hE : Acyclic E rk) : ∀ n, ListIndep E rk n := by
  intro n
  induction n using Nat.strongRecOn with
  | _ n ih =>
    intro e₁ e₂ ip₁ ip₂ a₁ a₂ hs ts hr
    exact list_indep E rk hE n ih e₁ e₂ a₁ a₂ ip₁ ip₂ hs ts hr

theorem value_resolved_as_top (E : Bindings) (rk : String → Nat) (hE : Acyclic E rk) (v : String) (l : List Tok)
    (ip : List String) (hip : ∀ u ∈ ip, rk v ≤ rk u)
    (hdef : E.lookup v = some l) :
    resList (expandVar (E.without v)) (v :: ip) l = resList (expandVar E) [] l := by
  apply listIndep_all E rk hE (rk v) (E.without v) E (v :: ip) []
  · intro w hw
    have : w ≠ v := by intro h; subst h; exact Nat.lt_irrefl _ hw
    exact lookup_without_ne E v w this
  · intro w _; rfl
  · intro u hu
    have hne : u ≠ v := by intro h; subst h; exact Nat.lt_irrefl _ hu
    have hnot : u ∉ ip := fun hm => Nat.lt_irrefl _ (Nat.lt_of_lt_of_le hu (hip u hm))
    simp [hne, hnot]
  · exact hE v l hdef

end WR.C08
