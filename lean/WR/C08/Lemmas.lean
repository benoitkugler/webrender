/-
  C08 — facts about the model's functions one at a time: tokens without var() are left alone, the generic expander's
  last loop, `_borderRadius` against CSS Backgrounds 3, and what `resTok` / `expandVar` do on a `var(` reference.
-/
import WR.C08.Spec
namespace WR.C08

theorem resTok_plain (e : String → List String → Option (List Tok)) (ip : List String) (t : Tok)
    (h : hasVar t = false) : resTok e ip t = none := by
  cases t with
  | fn name args => simp [resTok, h]
  | _ => simp [resTok]

theorem resList_plain (e : String → List String → Option (List Tok)) (ip : List String) (ts : List Tok)
    (h : hasVarList ts = false) : resList e ip ts = ts := by
  induction ts with
  | nil => simp [resList]
  | cons t rest ih =>
    simp only [hasVarList, Bool.or_eq_false_iff] at h
    simp [resList, resTok_plain e ip t h.1, ih h.2]

/-- the splice loop treats every element with the SAME in-progress set (the guard is path based) -/
theorem resList_append (e : String → List String → Option (List Tok)) (ip : List String) (a b : List Tok) :
    resList e ip (a ++ b) = resList e ip a ++ resList e ip b := by
  induction a with
  | nil => simp [resList]
  | cons t rest ih =>
    simp only [List.cons_append, resList]
    cases resTok e ip t <;> simp [ih]

theorem resFallback_plain (e : String → List String → Option (List Tok)) (ip : List String) (ts : List Tok)
    (h : hasVarList ts = false) : resFallback e ip ts true = removeWhitespace ts := by
  induction ts with
  | nil => simp [resFallback, removeWhitespace]
  | cons t rest ih =>
    simp only [hasVarList, Bool.or_eq_false_iff] at h
    have ih' := ih h.2
    have hr : removeWhitespace (t :: rest) = if t.isWs then removeWhitespace rest else t :: removeWhitespace rest := by
      simp [removeWhitespace, List.filter_cons]; split <;> simp_all
    rw [hr]
    cases t with
    | ws => simp [resFallback, Tok.isWs, ih']
    | comment c => simp [resFallback, Tok.isWs, ih']
    | lit x => simp [resFallback, Tok.isWs, ih']
    | fn name args => simp [resFallback, Tok.isWs, ih', resTok_plain e ip _ h.1]
    | ident x => simp [resFallback, Tok.isWs, ih', resTok]
    | num x => simp [resFallback, Tok.isWs, ih', resTok]
    | dim x y => simp [resFallback, Tok.isWs, ih', resTok]
    | other x y => simp [resFallback, Tok.isWs, ih', resTok]

theorem forall_mem_ite_option {α : Type} {p : α → Prop} {c : Prop} [Decidable c] {a b : Option α}
    (ha : ∀ x ∈ a, p x) (hb : ∀ x ∈ b, p x) : ∀ x ∈ (if c then a else b), p x := by
  split
  · exact ha
  · exact hb

theorem validateNonShorthand_name (P : Params) (n : String) (ts : List Tok) (r : Bool) :
    ∀ res ∈ validateNonShorthand P n ts r, res.1 = n := by
  -- every branch of the if-chain answers `none` or `some (n, _)`
  have hs : ∀ v : Val, ∀ res ∈ some (n, v), res.1 = n := fun v res h => by cases h; rfl
  have hn : ∀ res ∈ (none : Option (String × Val)), res.1 = n := fun res h => by cases h
  unfold validateNonShorthand
  refine forall_mem_ite_option (hs _) (forall_mem_ite_option hn (forall_mem_ite_option hn (forall_mem_ite_option (hs _)
    (forall_mem_ite_option (hs _) (forall_mem_ite_option (hs _) ?_)))))
  cases P.V n ts
  · exact hn
  · exact hs _

theorem validateNonShorthand_congr (P : Params) {m : String} {ts₁ ts₂ : List Tok} (r : Bool)
    (hp : hasPrefix "--" m = false) (hv₁ : hasVarList ts₁ = false) (hv₂ : hasVarList ts₂ = false)
    (hkw : getSingleKeyword ts₁ = getSingleKeyword ts₂) (hV : P.V m ts₁ = P.V m ts₂) :
    validateNonShorthand P m ts₁ r = validateNonShorthand P m ts₂ r := by
  simp only [validateNonShorthand, hp, hv₁, hv₂, hkw, hV, Bool.false_eq_true, if_false]

/-- one round of the final loop of genericExpander -/
def finishOne (P : Params) (results : List (String × List Tok)) (n : String) : Option Out :=
  match results.lookup n with
  | some ts => (validateNonShorthand P n ts true).map toOut
  | none => some { name := n, value := .initial, shorthand := "", important := false }

theorem genericFinish_cons (P : Params) (results : List (String × List Tok)) (n : String) (rest : List String) :
    genericFinish P results (n :: rest)
      = (finishOne P results n).bind fun o => (genericFinish P results rest).map (o :: ·) := by
  rw [genericFinish, finishOne]
  cases results.lookup n with
  | none => cases genericFinish P results rest <;> rfl
  | some ts =>
    dsimp only
    cases validateNonShorthand P n ts true <;> cases genericFinish P results rest <;> rfl

theorem genericFinish_cons_some {P : Params} {results : List (String × List Tok)} {n : String} {rest : List String}
    {os : List Out} (h : genericFinish P results (n :: rest) = some os) :
    ∃ o os', finishOne P results n = some o ∧ genericFinish P results rest = some os' ∧ os = o :: os' := by
  rw [genericFinish_cons] at h
  obtain ⟨o, ho, h⟩ := Option.bind_eq_some_iff.1 h
  obtain ⟨os', hos, rfl⟩ := Option.map_eq_some_iff.1 h
  exact ⟨o, os', ho, hos, rfl⟩

theorem finishOne_name (P : Params) (results : List (String × List Tok)) (n : String) :
    ∀ o ∈ finishOne P results n, o.name = n := by
  intro o ho
  rw [finishOne] at ho
  split at ho
  · obtain ⟨r, hr, rfl⟩ := Option.map_eq_some_iff.1 ho
    exact validateNonShorthand_name P n _ true r hr
  · cases ho; rfl

theorem genericFinish_names (P : Params) (names : List String) (results : List (String × List Tok)) (os : List Out)
    (h : genericFinish P results names = some os) : os.map (·.name) = names := by
  induction names generalizing os with
  | nil => cases h; rfl
  | cons n rest ih =>
    obtain ⟨o, os', ho, hos, rfl⟩ := genericFinish_cons_some h
    rw [List.map_cons, finishOne_name P results n o ho, ih os' hos]

theorem genericFinish_missing (P : Params) (names : List String) (results : List (String × List Tok)) (os : List Out)
    (h : genericFinish P results names = some os) (n : String) (hn : n ∈ names) (hmiss : results.lookup n = none) :
    { name := n, value := .initial, shorthand := "", important := false } ∈ os := by
  induction names generalizing os with
  | nil => cases hn
  | cons m rest ih =>
    obtain ⟨o, os', ho, hos, rfl⟩ := genericFinish_cons_some h
    rcases List.mem_cons.1 hn with rfl | hn'
    · rw [finishOne, hmiss] at ho
      cases ho
      exact List.mem_cons_self
    · exact List.mem_cons_of_mem _ (ih os' hos hn')

theorem specCorners_eq_fourOf (l : List Tok) :
    specCorners l = (fourOf l).map (fun (a, b, c, d) => [a, b, c, d]) := by
  match l with
  | [] => rfl
  | [_] => rfl
  | [_, _] => rfl
  | [_, _, _] => rfl
  | [_, _, _, _] => rfl
  | _ :: _ :: _ :: _ :: _ :: _ => simp [specCorners, fourOf]

theorem splitSlash_spec : ∀ (ts : List Tok),
    splitSlash ts =
      match ts.dropWhile (fun t => !isSlash t) with
      | [] => some (ts.takeWhile (fun t => !isSlash t), [])
      | _ :: v => if v.isEmpty || v.any isSlash then none
                  else some (ts.takeWhile (fun t => !isSlash t), v)
  | [] => rfl
  | t :: rest => by
    rw [splitSlash, List.dropWhile_cons, List.takeWhile_cons, isSlash]
    cases t.isSlash with
    | true =>
      simp only [Bool.not_true, Bool.false_eq_true, if_false, if_true]
      have : isSlash = Tok.isSlash := rfl
      rw [this]
      cases rest.isEmpty <;> cases rest.any Tok.isSlash <;> rfl
    | false =>
      simp only [Bool.not_false, Bool.false_eq_true, if_false, if_true, splitSlash_spec rest]
      cases rest.dropWhile (fun t => !isSlash t) with
      | nil => rfl
      | cons x v =>
        dsimp only
        generalize (v.isEmpty || v.any isSlash) = c
        cases c <;> rfl

theorem borderRadius_eq_spec (P : Params) (tokens : List Tok)
    (hvalid : ∀ n ts, (validateNonShorthand P n ts true).isSome = true) :
    (borderRadius P tokens).map (fun l => l.map (·.2)) = specBorderRadius tokens := by
  simp only [borderRadius, specBorderRadius, splitSlash_spec, specCorners_eq_fourOf]
  cases hd : tokens.dropWhile (fun t => !isSlash t) with
  | nil =>
    simp only [List.isEmpty_nil, if_true]
    cases hf : fourOf (tokens.takeWhile (fun t => !isSlash t)) with
    | none => simp
    | some q => obtain ⟨a, b, c, d⟩ := q; simp [hvalid]
  | cons x v =>
    by_cases hc : (v.isEmpty || v.any isSlash) = true
    · simp [hc]
    · have hne : v.isEmpty = false := by
        cases hv : v.isEmpty <;> simp_all
      have hany : v.any isSlash = false := by
        cases hv : v.any isSlash <;> simp_all
      have hnot : ¬ ∃ x, x ∈ v ∧ isSlash x = true := by
        intro h; have : v.any isSlash = true := by simpa using h
        simp [hany] at this
      have hvne : v ≠ [] := by intro e; subst e; simp at hne
      simp only [hne]
      cases hf : fourOf (tokens.takeWhile (fun t => !isSlash t)) with
      | none => simp [hnot, hf]
      | some q =>
        obtain ⟨a, b, c, d⟩ := q
        cases hg : fourOf v with
        | none => simp [hnot, hvne, hg, hf]
        | some q' => obtain ⟨a', b', c', d'⟩ := q'; simp [hvalid, hnot, hvne, hg, hf]

def exampleParams : Params where
  notPrint := fun _ => false
  proprietary := fun _ => false
  unstable := fun _ => false
  shorthand := fun _ => none
  known := fun n => n == "width"
  supported := fun _ => true
  V := fun _ _ => some "v"
  X := fun _ _ => none
  XO := fun _ _ => none
  growShrink := fun _ => none
  isBasis := fun _ => false
  intZero := fun _ => false

theorem lower_var : lower "var" = "var" := by decide

theorem hasVar_var {name : String} {args rest : List Tok} {v : String} (hn : lower name = "var")
    (hname : hasPrefix "--" v = true) (hargs : parseArgs args false = some (.ident v :: rest)) :
    hasVar (.fn name args) = true := by
  simp [hasVar, hargs, hn, headIsVarName, hname]

/-- a reference, whatever ParseFunction makes of its arguments; `resTok_var` is the case the theorems use -/
theorem resTok_var_of_hasVar (e : String → List String → Option (List Tok)) (ip : List String) {name : String} {args : List Tok}
    (hv : hasVar (.fn name args) = true) (hn : lower name = "var") :
    resTok e ip (.fn name args)
      = match parseArgs args false with
        | some (.ident v :: _) =>
          some (if ip.contains v then [] else (e v (v :: ip)).getD (resFallback e (v :: ip) args false))
        | _ => none := by
  rw [resTok, hv]
  simp only [Bool.not_true, Bool.false_eq_true, if_false, hn, ne_eq, not_true_eq_false]
  split
  · next v rest hp =>
    rw [hp]
    dsimp only
    split
    · rfl
    · cases e v (v :: ip) <;> rfl
  · next hne =>
    split
    · next v rest hp => exact absurd hp (hne v rest)
    · rfl

theorem resTok_var (e : String → List String → Option (List Tok)) (ip : List String) {name : String} {args rest : List Tok}
    {v : String} (hn : lower name = "var") (hname : hasPrefix "--" v = true)
    (hargs : parseArgs args false = some (.ident v :: rest)) :
    resTok e ip (.fn name args)
      = some (if ip.contains v then [] else (e v (v :: ip)).getD (resFallback e (v :: ip) args false)) := by
  rw [resTok_var_of_hasVar e ip (hasVar_var hn hname hargs) hn, hargs]

theorem resTok_fn (e : String → List String → Option (List Tok)) (ip : List String) {name : String} {args : List Tok}
    (hv : hasVar (.fn name args) = true) (hn : lower name ≠ "var") :
    resTok e ip (.fn name args) = some [.fn name (resList e ip args)] := by
  rw [resTok, hv]
  simp only [Bool.not_true, Bool.false_eq_true, if_false, hn, ne_eq, not_false_eq_true, if_true]

theorem resList_cons (e : String → List String → Option (List Tok)) (ip : List String) (t : Tok) (rest : List Tok) :
    resList e ip (t :: rest) = (resTok e ip t).getD [t] ++ resList e ip rest := by
  rw [resList]
  cases resTok e ip t <;> rfl

theorem expandVar_eq (env : Bindings) (v : String) (ip : List String) :
    expandVar env v ip = match env.lookup v with
      | some l => if l = [] then none else some (resList (expandVar (env.without v)) ip l)
      | none => none := by
  rw [expandVar]
  split <;> simp [*]

theorem expandVar_some (env : Bindings) (v : String) (ip : List String) (l : List Tok)
    (hdef : env.lookup v = some l) (hne : l ≠ []) :
    expandVar env v ip = some (resList (expandVar (env.without v)) ip l) := by
  rw [expandVar_eq, hdef]
  exact if_neg hne

theorem expandVar_none (env : Bindings) (v : String) (ip : List String)
    (hundef : env.lookup v = none) : expandVar env v ip = none := by
  rw [expandVar_eq, hundef]

theorem cascadePending_of_empty (P : Params) {env : Bindings} (prop sh : String) {raw : List Tok}
    (h : solveTokens env raw = []) : cascadePending P env prop sh raw = .invalid [] := by
  simp [cascadePending, h]

/-- evaluation of the var() model on concrete inputs (`expandVar` and `parseArgs` are defined by well-founded
    recursion, which `decide`/`rfl` do not unfold).  A caller whose input has a function other than `var(`, say `f(`,
    first states `lower "f" = "f"` as a hypothesis: `simp` does not evaluate `lower`. -/
macro "c08_eval" : tactic => `(tactic|
  simp [*, solveTokens, resolveVar, resList, resTok, hasVar, hasVarList, parseArgs, headIsVarName, expandVar,
    resFallback, List.lookup, Bindings.without, Bindings.get, lower_var, hasPrefix, cascadePending])

end WR.C08
