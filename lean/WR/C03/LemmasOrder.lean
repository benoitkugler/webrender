/-
  C03 — order of visit: the declarations the model inserts are the spec's occurrences, in the
  same order.
-/
import WR.C03.Lemmas
namespace WR.C03
open Spec

def expand (rules : List (List Sel × List Decl)) : List (Spec3 × Decl) :=
  rules.flatMap fun e => (e.1.filter (·.ok)).flatMap fun s => e.2.map fun d => (s.spec, d)

theorem expand_append (a b : List (List Sel × List Decl)) : expand (a ++ b) = expand a ++ expand b := by
  simp [expand]

theorem expand_cons (e : List Sel × List Decl) (b : List (List Sel × List Decl)) :
    expand (e :: b) = expand [e] ++ expand b := by
  simp [expand]

theorem expand_nil : expand [] = [] := rfl

theorem nestSelectors_eq (parent ns : List Sel) : Model.nestSelectors parent ns = nestSels parent ns := by
  simp [Model.nestSelectors, nestSels]

/-- the code's flattening and the spec's differ only by empty `(selectors, [])` entries -/
theorem flatten_ok (sels : List Sel) (run : List Decl) (body : List Body) :
    expand (Model.flattenBody sels run body) = expand (Spec.flatBody sels run body) := by
  apply Model.flattenBody.induct
    (motive_1 := fun sels run b =>
      expand (Model.flattenItem sels run b).1 = expand (Spec.flatItem sels run b).1 ∧
      (Model.flattenItem sels run b).2 = (Spec.flatItem sels run b).2)
    (motive_2 := fun sels run body =>
      expand (Model.flattenBody sels run body) = expand (Spec.flatBody sels run body))
  · intro sels run d
    simp [Spec.flatItem, Model.flattenItem]
  · intro sels run ns nb ih
    rw [nestSelectors_eq] at ih
    simp only [Spec.flatItem, Model.flattenItem, nestSelectors_eq, and_true]
    rw [expand_append, ih, expand_cons (sels, run)]
    cases run <;> simp [expand]
  · intro sels run
    simp [Spec.flatBody, Model.flattenBody]
  · intro sels run b rest x ihb ihrest
    obtain ⟨h1, h2⟩ := ihb
    simp only [Spec.flatBody, Model.flattenBody]
    rw [expand_append, expand_append, h1]
    rw [h2] at ihrest
    rw [h2, ihrest]

theorem evaluateMediaQuery_eq (m : List Medium) (dev : Medium) :
    Model.evaluateMediaQuery m dev = mediaOk m dev := by
  induction m with
  | nil => rfl
  | cons q qs ih =>
    rw [Model.evaluateMediaQuery, ih]
    simp only [mediaOk, List.any_cons]
    cases q == Medium.all || q == dev <;> rfl

theorem items_ok (dev : Medium) (ign : Bool) (items : List Item) :
    expand (Model.preprocessItems dev ign items) = expand (Spec.itemsRules dev (!ign) items) := by
  apply Model.preprocessItems.induct dev
    (motive_1 := fun ign it =>
      expand (Model.preprocessItem dev ign it).1 = expand (Spec.itemRules dev (!ign) it) ∧
      (Model.preprocessItem dev ign it).2 = !((!ign) && keepsLeading it))
    (motive_2 := fun ign items =>
      expand (Model.preprocessItems dev ign items) = expand (Spec.itemsRules dev (!ign) items))
  -- the invariant is the second component of `motive_1`: the code's `ignoreImports` flag is the
  -- negation of the spec's "still in the leading zone"; the item cases only unfold both sides
  case case10 =>
    intro ign it rest r ih1 ih2
    simp only [Model.preprocessItems, Spec.itemsRules, expand_append, ih1.1]
    rw [ih1.2] at ih2 ⊢
    simpa using ih2
  all_goals
    intros
    simp_all [Model.preprocessItem, Model.preprocessItems, Spec.itemRules, Spec.itemsRules, keepsLeading,
      expand_nil, evaluateMediaQuery_eq, Model.preprocessDeclarationsPrelude, flatten_ok]

theorem newCSS_ok (dev : Medium) (items : List Item) :
    expand (Model.newCSS dev items) = expand (Spec.sheetRules dev items) := by
  simpa [Model.newCSS, Spec.sheetRules] using items_ok dev false items

def toW (o : Occ) : Model.WValue :=
  ⟨⟨Model.declarationPrecedence o.origin o.imp,
    (match o.kind with
    | .styleAttr => true
    | _ => false),
    match o.kind with
    | .rule => o.spec
    | .styleAttr => (1, 0, 0)
    | .hint => (0, 0, 0)⟩, o.val⟩

theorem toW_val (o : Occ) : (toW o).val = o.val := rfl

theorem sheetInsertions_eq (sh : Model.Sheet) :
    Model.sheetInsertions sh = (expand sh.matcher).map fun p =>
      ⟨⟨Model.declarationPrecedence sh.origin p.2.imp, false,
        match sh.specificity with
        | some s => s
        | none => p.1⟩, p.2.val⟩ := by
  obtain ⟨m, o, sp⟩ := sh
  cases sp <;>
    simp [Model.sheetInsertions, Model.matcherMatch, expand, List.map_flatMap, List.flatMap_map, List.flatMap_assoc,
      Function.comp_def]

theorem ruleOccs_eq (o : Origin) (k : Kind) (rules : List (List Sel × List Decl)) :
    ruleOccs o k rules = (expand rules).map fun p =>
      { origin := o, imp := p.2.imp, kind := k, spec := p.1, val := p.2.val } := by
  simp [ruleOccs, expand, List.map_flatMap, Function.comp_def]

theorem sheet_rule (dev : Medium) (items : List Item) (o : Origin) :
    Model.sheetInsertions ⟨Model.newCSS dev items, o, none⟩ = (ruleOccs o .rule (sheetRules dev items)).map toW := by
  rw [sheetInsertions_eq, ruleOccs_eq, newCSS_ok, List.map_map]
  rfl

theorem sheet_hint (dev : Medium) (items : List Item) (o : Origin) :
    Model.sheetInsertions ⟨Model.newCSS dev items, o, some (0, 0, 0)⟩ =
      (ruleOccs o .hint (sheetRules dev items)).map toW := by
  rw [sheetInsertions_eq, ruleOccs_eq, newCSS_ok, List.map_map]
  rfl

end WR.C03
