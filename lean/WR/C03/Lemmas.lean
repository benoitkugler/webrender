/-
  C03 — the "keep the later of the maximal" scan, generically, and the two comparisons it is run
  with: the model's `weight.Less` and the spec's `le` are total preorders.
-/
import WR.C03.Model
import WR.C03.Spec
namespace WR.C03

namespace Scan
variable {α : Type}

def step (le : α → α → Bool) (cur : Option α) (d : α) : Option α :=
  match cur with
  | none => some d
  | some o => if le o d then some d else some o

def scan (le : α → α → Bool) (ds : List α) : Option α := ds.foldl (step le) none

def IsLastMax (le : α → α → Bool) (ds : List α) (r : α) : Prop :=
  ∃ pre post, ds = pre ++ r :: post ∧ (∀ d ∈ pre, le d r = true) ∧ (∀ d ∈ post, le r d = false)

structure TotalPreorder (le : α → α → Bool) : Prop where
  total : ∀ a b, le a b = true ∨ le b a = true
  trans : ∀ a b c, le a b = true → le b c = true → le a c = true

theorem TotalPreorder.of_eq {le le' : α → α → Bool} (h : ∀ a b, le a b = le' a b) (hp : TotalPreorder le') :
    TotalPreorder le := by
  have : le = le' := funext fun a => funext (h a)
  exact this ▸ hp

theorem TotalPreorder.lex {β : Type} {le₂ : β → β → Bool} (h : TotalPreorder le₂) (k : α → Nat) (f : α → β) :
    TotalPreorder fun a b => decide (k a < k b) || (k a == k b && le₂ (f a) (f b)) := by
  constructor
  · intro a b
    simp only [Bool.or_eq_true, Bool.and_eq_true, decide_eq_true_eq, beq_iff_eq]
    rcases Nat.lt_trichotomy (k a) (k b) with hk | hk | hk
    · exact Or.inl (Or.inl hk)
    · exact (h.total (f a) (f b)).imp (fun h' => Or.inr ⟨hk, h'⟩) (fun h' => Or.inr ⟨hk.symm, h'⟩)
    · exact Or.inr (Or.inl hk)
  · intro a b c
    simp only [Bool.or_eq_true, Bool.and_eq_true, decide_eq_true_eq, beq_iff_eq]
    rintro (h1 | ⟨e1, h1⟩) (h2 | ⟨e2, h2⟩)
    · exact Or.inl (Nat.lt_trans h1 h2)
    · exact Or.inl (e2 ▸ h1)
    · exact Or.inl (e1 ▸ h2)
    · exact Or.inr ⟨e1.trans e2, h.trans _ _ _ h1 h2⟩

theorem natGe_totalPreorder : TotalPreorder fun a b : Nat => !decide (b < a) := by
  constructor
  · intro a b
    simp only [Bool.not_eq_true', decide_eq_false_iff_not, Nat.not_lt]
    exact Nat.le_total a b
  · intro a b c
    simp only [Bool.not_eq_true', decide_eq_false_iff_not, Nat.not_lt]
    exact Nat.le_trans

theorem IsLastMax.all_le {le : α → α → Bool} (hle : TotalPreorder le) {ds : List α} {r : α} (h : IsLastMax le ds r) :
    ∀ x ∈ ds, le x r = true := by
  obtain ⟨pre, post, rfl, hpre, hpost⟩ := h
  intro x hx
  rcases List.mem_append.mp hx with hx | hx
  · exact hpre x hx
  · rcases List.mem_cons.mp hx with rfl | hx
    · exact (hle.total x x).elim id id
    · exact (hle.total x r).resolve_right (by simp [hpost x hx])

theorem IsLastMax.step {le : α → α → Bool} (hle : TotalPreorder le) {seen : List α} {o : α} (h : IsLastMax le seen o) (d : α) :
    ∃ r, step le (some o) d = some r ∧ IsLastMax le (seen ++ [d]) r := by
  by_cases hd : le o d = true
  · exact ⟨d, if_pos hd, seen, [], rfl, fun x hx => hle.trans _ _ _ (h.all_le hle x hx) hd, fun _ h => nomatch h⟩
  · obtain ⟨pre, post, rfl, hpre, hpost⟩ := h
    refine ⟨o, if_neg hd, pre, post ++ [d], by simp, hpre, fun x hx => ?_⟩
    rcases List.mem_append.mp hx with hx | hx
    · exact hpost x hx
    · rw [List.mem_singleton.mp hx]; simpa using hd

theorem IsLastMax.foldl {le : α → α → Bool} (hle : TotalPreorder le) (ds : List α) {seen : List α} {o : α} (h : IsLastMax le seen o) :
    ∃ r, ds.foldl (Scan.step le) (some o) = some r ∧ IsLastMax le (seen ++ ds) r := by
  induction ds generalizing seen o with
  | nil => exact ⟨o, rfl, by rwa [List.append_nil]⟩
  | cons d ds ih =>
    obtain ⟨r, hr, hmax⟩ := h.step hle d
    rw [List.foldl_cons, hr, List.append_cons]
    exact ih hmax

theorem scan_isLastMax {le : α → α → Bool} (hle : TotalPreorder le) (d : α) (ds : List α) :
    ∃ r, scan le (d :: ds) = some r ∧ IsLastMax le (d :: ds) r :=
  IsLastMax.foldl hle ds (show IsLastMax le [d] d from ⟨[], [], rfl, nofun, nofun⟩)

theorem scan_nil (le : α → α → Bool) : scan le [] = none := rfl

theorem step_map {β : Type} {le1 : α → α → Bool} {le2 : β → β → Bool} {f : α → β}
    (h : ∀ x y, le2 (f x) (f y) = le1 x y) (cur : Option α) (d : α) :
    step le2 (cur.map f) (f d) = (step le1 cur d).map f := by
  cases cur with
  | none => rfl
  | some o =>
    simp only [Option.map_some, step, h]
    split <;> rfl

theorem scan_map {β : Type} (le1 : α → α → Bool) (le2 : β → β → Bool) (f : α → β) (ds : List α)
    (h : ∀ x y, le2 (f x) (f y) = le1 x y) :
    scan le2 (ds.map f) = (scan le1 ds).map f := by
  unfold scan
  rw [List.foldl_map]
  exact List.foldl_hom (Option.map f) (g₁ := step le1) (g₂ := fun cur d => step le2 cur (f d)) (init := none)
    (step_map h)

theorem find_last_of_isLastMax {le : α → α → Bool} (hle : TotalPreorder le) (ds : List α) (r : α)
    (h : IsLastMax le ds r) : ds.reverse.find? (fun w => ds.all fun o => le o w) = some r := by
  -- reversed, the list is `post.reverse ++ r :: pre.reverse`: everything is `le r`, and nothing in
  -- `post` has that property since `r` itself is strictly above it
  have hall : (ds.all fun o => le o r) = true := List.all_eq_true.mpr (h.all_le hle)
  obtain ⟨pre, post, hds, hpre, hpost⟩ := h
  have hr : r ∈ ds := by simp [hds]
  have hrev : ds.reverse = post.reverse ++ r :: pre.reverse := by simp [hds]
  rw [hrev, List.find?_append]
  have hnone : post.reverse.find? (fun w => ds.all fun o => le o w) = none := by
    rw [List.find?_eq_none]
    intro x hx
    have hx' : x ∈ post := by simpa using hx
    intro hcontra
    simp only [List.all_eq_true] at hcontra
    have := hcontra r hr
    rw [hpost x hx'] at this; cases this
  rw [hnone]
  simp [hall]

theorem scan_eq_find_last {le : α → α → Bool} (hle : TotalPreorder le) (ds : List α) :
    scan le ds = ds.reverse.find? (fun w => ds.all fun o => le o w) := by
  cases ds with
  | nil => rfl
  | cons d ds =>
    obtain ⟨r, hr, hmax⟩ := scan_isLastMax hle d ds
    rw [hr, find_last_of_isLastMax hle _ _ hmax]

end Scan

/-! Both `Weight.less` and `Spec.le` compare (precedence, style attribute, specificity)
lexicographically, every key a `Nat`; the lemmas below bring each level to the form
`x < y || (x == y && rest)` of `TotalPreorder.lex`. -/

theorem ite_lt_gt (x y : Nat) (r : Bool) :
    (if x < y then true else if x > y then false else r) = (decide (x < y) || (x == y && r)) := by
  rcases Nat.lt_trichotomy x y with h | h | h
  · simp [h]
  · subst h; simp
  · simp [h, Nat.lt_asymm h, Nat.ne_of_gt h]

theorem not_lexLt (x y : Nat) (r : Bool) :
    (!(decide (y < x) || (y == x && r))) = (decide (x < y) || (x == y && !r)) := by
  rcases Nat.lt_trichotomy x y with h | h | h
  · simp [h, Nat.lt_asymm h, Nat.ne_of_gt h]
  · subst h; simp
  · simp [h, Nat.lt_asymm h, Nat.ne_of_gt h]

theorem lexLt_or_eq (x y : Nat) (r e : Bool) :
    ((decide (x < y) || (x == y && r)) || (x == y && e)) = (decide (x < y) || (x == y && (r || e))) := by
  cases decide (x < y) <;> cases x == y <;> rfl

theorem lt_or_beq (x y : Nat) : (decide (x < y) || x == y) = !decide (y < x) := by
  rw [Bool.eq_iff_iff]
  simp only [Bool.or_eq_true, decide_eq_true_eq, beq_iff_eq, Bool.not_eq_true', decide_eq_false_iff_not, Nat.not_lt]
  exact Nat.le_iff_lt_or_eq.symm

theorem specificityLess_eq (a b : Spec3) : Model.specificityLess a b = specLt a b := by
  simp only [Model.specificityLess, specLt, ite_lt_gt, Bool.and_false, Bool.or_false]

theorem not_specLt (a b : Spec3) : (!specLt b a) =
    (decide (a.1 < b.1) || (a.1 == b.1 && (decide (a.2.1 < b.2.1) || (a.2.1 == b.2.1 && !decide (b.2.2 < a.2.2))))) := by
  simp only [specLt, not_lexLt]

/-- `a ≤ b` as the code writes it (`a < b || a == b`) and as the spec does (`¬ b < a`) -/
theorem specificityLess_or_eq (a b : Spec3) : (Model.specificityLess a b || a == b) = !specLt b a := by
  rw [specificityLess_eq, not_specLt]
  show (specLt a b || (a.1 == b.1 && (a.2.1 == b.2.1 && a.2.2 == b.2.2))) = _
  simp only [specLt, lexLt_or_eq, lt_or_beq]

theorem specGe_totalPreorder : Scan.TotalPreorder fun a b : Spec3 => !specLt b a :=
  .of_eq not_specLt
    ((Scan.natGe_totalPreorder.lex (fun p : Nat × Nat => p.1) (·.2)).lex (fun a : Spec3 => a.1) (·.2))

open Model in
theorem less_eq (w o : Weight) : w.less o =
    (decide (w.precedence < o.precedence) || (w.precedence == o.precedence &&
      (decide (w.styleAttr.toNat < o.styleAttr.toNat) || (w.styleAttr.toNat == o.styleAttr.toNat &&
        !specLt o.specificity w.specificity)))) := by
  unfold Weight.less
  by_cases hp : w.precedence = o.precedence
  · cases w.styleAttr <;> cases o.styleAttr <;> simp [hp, specificityLess_or_eq]
  · simp [hp]

theorem less_totalPreorder : Scan.TotalPreorder Model.Weight.less :=
  .of_eq less_eq
    ((specGe_totalPreorder.lex (fun w : Model.Weight => w.styleAttr.toNat) (·.specificity)).lex (·.precedence) id)

/-- `Spec.le` unfolds to the shape of `TotalPreorder.lex` as it is written; `Weight.less` needed `less_eq` -/
theorem sle_totalPreorder : Scan.TotalPreorder Spec.le :=
  (specGe_totalPreorder.lex Spec.Occ.rank Spec.Occ.effSpec).lex
    (fun o : Spec.Occ => Spec.precedence o.origin o.imp) id

def wle (a b : Model.WValue) : Bool := a.weight.less b.weight

theorem wle_totalPreorder : Scan.TotalPreorder wle :=
  ⟨fun _ _ => less_totalPreorder.total _ _, fun _ _ _ => less_totalPreorder.trans _ _ _⟩

/-- the Go zero value of the map entry stands for "no entry" -/
def toOpt (w : Model.WValue) : Option Model.WValue := if w.weight.isNone then none else some w

theorem isNone_false_of_pos (w : Model.WValue) (h : 1 ≤ w.weight.precedence) : w.weight.isNone = false := by
  simp [Model.Weight.isNone]; omega

theorem foldl_insert_toOpt (ds : List Model.WValue) (hpos : ∀ d ∈ ds, 1 ≤ d.weight.precedence) (s : Model.WValue) :
    toOpt (ds.foldl Model.insert s) = ds.foldl (Scan.step wle) (toOpt s) := by
  induction ds generalizing s with
  | nil => rfl
  | cons d ds ih =>
    have hd := isNone_false_of_pos d (hpos d (by simp))
    simp only [List.foldl_cons]
    rw [ih (fun x hx => hpos x (by simp [hx]))]
    congr 1
    unfold Model.insert toOpt Scan.step
    cases hs : s.weight.isNone
    · simp only [Bool.false_or, Bool.false_eq_true, if_false, wle]
      by_cases hl : s.weight.less d.weight = true
      · simp [hl, hd]
      · simp [hl, hs]
    · simp [hd]

theorem cascade_eq_scan (ds : List Model.WValue) (hpos : ∀ d ∈ ds, 1 ≤ d.weight.precedence) :
    toOpt (Model.cascade ds) = Scan.scan wle ds :=
  foldl_insert_toOpt ds hpos Model.WValue.zero

theorem declarationPrecedence_pos (o : Origin) (i : Bool) : 1 ≤ Model.declarationPrecedence o i := by
  cases o <;> cases i <;> decide

end WR.C03
