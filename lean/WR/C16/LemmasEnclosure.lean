/-
  C16 — group_encloses_subtree, the part that holds: in the trace of a tree with pairwise distinct ids, what a
  box that forms a real stacking context paints is ONE contiguous segment, every event of the segment belongs
  to the box's sub-tree, and no event of the sub-tree lies outside the segment.  What a context paints is a
  concatenation of pieces (`pieces`) that the z-order merely rearranges; a real context below it is inside
  exactly one of them, the participant it was handed up in.
-/
import WR.C16.Enclosure
import WR.C16.LemmasOrder
namespace WR.C16

theorem forall_mem_ite_nil {α : Type} {p : α → Prop} {c : Prop} [Decidable c] {l : List α} :
    (∀ x ∈ (if c then l else []), p x) ↔ (c → ∀ x ∈ l, p x) := by
  split <;> simp [*]

mutual
  def sub : Box → List Box
    | .mk id pr children => .mk id pr children :: subL children
  def subL : List Box → List Box
    | [] => []
    | b :: rest => sub b ++ subL rest
end

structure OutClean (P : Nat → Prop) (cs : List Box) : Prop where
  parts : ∀ p ∈ participants cs, ∀ e ∈ p.2, P e.1
  blocks : ∀ l ∈ flowBlocks cs, ∀ e ∈ l, P e.1
  floats : ∀ f ∈ floatsOf cs, ∀ e ∈ f, P e.1
  lines : ∀ l ∈ flowLines cs, ∀ e ∈ l, P e.1
  inflow : ∀ x ∈ flowAll cs, P x
  inl : ∀ e ∈ inlineOf cs, P e.1

/-- the five traversals that stay inside the enclosing (pseudo-)context -/
structure FlowClean (P : Nat → Prop) (cs : List Box) : Prop where
  blocks : ∀ l ∈ flowBlocks cs, ∀ e ∈ l, P e.1
  floats : ∀ f ∈ floatsOf cs, ∀ e ∈ f, P e.1
  lines : ∀ l ∈ flowLines cs, ∀ e ∈ l, P e.1
  inflow : ∀ x ∈ flowAll cs, P x
  inl : ∀ e ∈ inlineOf cs, P e.1

theorem OutClean.flow {P : Nat → Prop} {cs : List Box} (h : OutClean P cs) : FlowClean P cs :=
  ⟨h.blocks, h.floats, h.lines, h.inflow, h.inl⟩

theorem FlowClean.outClean {P : Nat → Prop} {cs : List Box} (h : FlowClean P cs)
    (hparts : ∀ p ∈ participants cs, ∀ e ∈ p.2, P e.1) : OutClean P cs :=
  ⟨hparts, h.blocks, h.floats, h.lines, h.inflow, h.inl⟩

theorem OutClean.mono {P Q : Nat → Prop} {cs : List Box} (h : OutClean P cs) (hpq : ∀ x, P x → Q x) : OutClean Q cs :=
  ⟨fun p hp e he => hpq _ (h.parts p hp e he), fun l hl e he => hpq _ (h.blocks l hl e he), fun f hf e he => hpq _ (h.floats f hf e he),
   fun l hl e he => hpq _ (h.lines l hl e he), fun x hx => hpq _ (h.inflow x hx), fun e he => hpq _ (h.inl e he)⟩

/-- what `layers` paints before the children of the context -/
def opening (id : Nat) (pr : BProps) : List PEv :=
  (if pr.opacity then [(id, Layer.groupOpen)] else [])
  ++ (if pr.transform then [(id, Layer.xformOpen)] else [])
  ++ (if pr.blockLevel || pr.inlineBlock then [(id, Layer.background), (id, Layer.border)] else [])
  ++ (if pr.overflow then [(id, Layer.clipOpen)] else [])

/-- … and after them -/
def closing (id : Nat) (pr : BProps) (inflow : List Nat) : List PEv :=
  (if pr.overflow then [(id, Layer.clipClose)] else [])
  ++ ((id :: inflow).map fun b => (b, Layer.outline))
  ++ (if pr.transform then [(id, Layer.xformClose)] else [])
  ++ (if pr.opacity then [(id, Layer.groupClose)] else [])

def pieces (id : Nat) (pr : BProps) (parts : List CCtx) (blocks floats lines : List (List PEv)) (inflow : List Nat) :
    List (List PEv) :=
  opening id pr :: (sortZ (parts.filter (·.1 < 0))).map (·.2) ++ blocks ++ floats ++ lines
    ++ (parts.filter (·.1 == 0)).map (·.2) ++ (sortZ (parts.filter (·.1 > 0))).map (·.2) ++ [closing id pr inflow]

theorem layers_eq_flatten (id : Nat) (pr : BProps) (parts : List CCtx) (blocks floats lines : List (List PEv))
    (inflow : List Nat) : layers id pr parts blocks floats lines inflow = (pieces id pr parts blocks floats lines inflow).flatten := by
  simp only [layers, pieces, opening, closing, List.flatMap_def, List.flatten_append, List.flatten_cons, List.flatten_nil,
    List.append_assoc, List.cons_append, List.append_nil]

theorem pieces_perm (id : Nat) (pr : BProps) (parts : List CCtx) (blocks floats lines : List (List PEv)) (inflow : List Nat) :
    (pieces id pr parts blocks floats lines inflow).Perm
      (parts.map (·.2) ++ opening id pr :: closing id pr inflow :: (blocks ++ floats ++ lines)) := by
  refine List.perm_iff_count.2 fun a => ?_
  have hn := ((sortZ_perm (parts.filter (·.1 < 0))).map (·.2)).count_eq a
  have hp := ((sortZ_perm (parts.filter (·.1 > 0))).map (·.2)).count_eq a
  have hs := ((signs_perm parts).map (·.2)).count_eq a
  simp only [pieces, List.map_append, List.count_append, List.count_cons, List.count_nil] at hs ⊢
  omega

theorem opening_ids (id : Nat) (pr : BProps) : ∀ e ∈ opening id pr, e.1 = id := by
  simp only [opening, List.forall_mem_append]
  refine ⟨⟨⟨?_, ?_⟩, ?_⟩, ?_⟩ <;> split <;> simp

theorem closing_ids (id : Nat) (pr : BProps) (inflow : List Nat) : ∀ e ∈ closing id pr inflow, e.1 = id ∨ e.1 ∈ inflow := by
  simp only [closing, List.forall_mem_append]
  refine ⟨⟨⟨?_, ?_⟩, ?_⟩, ?_⟩
  · split <;> simp
  · rw [List.forall_mem_map, List.forall_mem_cons]
    exact ⟨Or.inl rfl, fun a ha => Or.inr ha⟩
  · split <;> simp
  · split <;> simp

theorem pieces_clean {P : Nat → Prop} {id : Nat} {pr : BProps} {parts : List CCtx} {blocks floats lines : List (List PEv)}
    {inflow : List Nat} (hid : P id) (hparts : ∀ p ∈ parts, ∀ e ∈ p.2, P e.1) (hblocks : ∀ l ∈ blocks, ∀ e ∈ l, P e.1)
    (hfloats : ∀ f ∈ floats, ∀ e ∈ f, P e.1) (hlines : ∀ l ∈ lines, ∀ e ∈ l, P e.1) (hinflow : ∀ x ∈ inflow, P x) :
    ∀ c ∈ pieces id pr parts blocks floats lines inflow, ∀ e ∈ c, P e.1 := by
  intro c hc
  rw [(pieces_perm ..).mem_iff] at hc
  simp only [List.mem_append, List.mem_map, List.mem_cons] at hc
  rcases hc with ⟨p, hp, rfl⟩ | rfl | rfl | (hc | hc) | hc
  · exact hparts p hp
  · exact fun e he => opening_ids id pr e he ▸ hid
  · intro e he
    rcases closing_ids id pr inflow e he with h | h
    · exact h ▸ hid
    · exact hinflow _ h
  · exact hblocks c hc
  · exact hfloats c hc
  · exact hlines c hc

theorem layers_clean {P : Nat → Prop} {id : Nat} {pr : BProps} {parts : List CCtx} {blocks floats lines : List (List PEv)}
    {inflow : List Nat} (hid : P id) (hparts : ∀ p ∈ parts, ∀ e ∈ p.2, P e.1) (hblocks : ∀ l ∈ blocks, ∀ e ∈ l, P e.1)
    (hfloats : ∀ f ∈ floats, ∀ e ∈ f, P e.1) (hlines : ∀ l ∈ lines, ∀ e ∈ l, P e.1) (hinflow : ∀ x ∈ inflow, P x) :
    ∀ e ∈ layers id pr parts blocks floats lines inflow, P e.1 := by
  rw [layers_eq_flatten]
  exact List.forall_mem_flatten.2 (pieces_clean hid hparts hblocks hfloats hlines hinflow)

theorem FlowClean.ownLines {P : Nat → Prop} {children : List Box} (h : FlowClean P children) (pr : BProps) :
    ∀ l ∈ (if pr.hasLines then [inlineOf children] else []) ++ flowLines children, ∀ e ∈ l, P e.1 := by
  rw [List.forall_mem_append, forall_mem_ite_nil, List.forall_mem_singleton]
  exact ⟨fun _ => h.inl, h.lines⟩

theorem specReal_clean {P : Nat → Prop} {id : Nat} {pr : BProps} {children : List Box} (hid : P id)
    (h : OutClean P children) : ∀ e ∈ specReal (.mk id pr children), P e.1 := by
  rw [specReal]
  exact layers_clean hid h.parts h.blocks h.floats (h.flow.ownLines pr) h.inflow

theorem specPseudo_clean {P : Nat → Prop} {id : Nat} {pr : BProps} {children : List Box} (hid : P id)
    (h : FlowClean P children) : ∀ e ∈ specPseudo (.mk id pr children), P e.1 := by
  rw [specPseudo]
  exact layers_clean hid (by simp) h.blocks h.floats (h.ownLines pr) h.inflow

mutual
  theorem cells_sub_flowAll1 : ∀ (b : Box), ∀ x ∈ cellsOf b, x ∈ flowAll [b]
    | .mk id pr children, x, hx => by
      simp only [cellsOf] at hx
      simp only [flowAll, List.append_nil]
      split at hx
      · cases hx
      · rename_i hf
        rw [if_pos (by simpa using hf)]
        split at hx
        · exact List.mem_cons.2 (Or.inl (List.mem_singleton.1 hx))
        · exact List.mem_cons_of_mem _ (cells_sub_flowAll children x hx)
  theorem cells_sub_flowAll : ∀ (cs : List Box), ∀ x ∈ cellsOfL cs, x ∈ flowAll cs
    | [], x, hx => by cases hx
    | b :: rest, x, hx => by
      rw [flowAll_cons]
      rw [cellsOfL] at hx
      exact List.mem_append.2 ((List.mem_append.1 hx).imp (cells_sub_flowAll1 b x) (cells_sub_flowAll rest x))
end

theorem blockPaint_clean {P : Nat → Prop} (id : Nat) (pr : BProps) (children : List Box) (hid : P id)
    (hin : ∀ x ∈ flowAll children, P x) : ∀ e ∈ blockPaint id pr children, P e.1 := by
  have hcells : ∀ (l : Layer), ∀ e ∈ (cellsOfL children).map (fun c => (c, l)), P e.1 :=
    fun l => List.forall_mem_map.2 fun c hc => hin c (cells_sub_flowAll children c hc)
  rw [blockPaint]
  split
  · simp only [List.forall_mem_append, List.forall_mem_cons]
    exact ⟨⟨hid, hcells _⟩, hid, hcells _⟩
  · simp only [List.forall_mem_cons]
    exact ⟨hid, hid, by simp⟩

theorem flowClean_nil {P : Nat → Prop} : FlowClean P [] := by
  constructor <;> simp [flowBlocks, floatsOf, flowLines, flowAll, inlineOf]

theorem flowClean_cons {P : Nat → Prop} {b : Box} {rest : List Box} (h1 : FlowClean P [b]) (h2 : FlowClean P rest) :
    FlowClean P (b :: rest) := by
  constructor
  · rw [flowBlocks_cons]; exact List.forall_mem_append.2 ⟨h1.blocks, h2.blocks⟩
  · rw [floatsOf_cons]; exact List.forall_mem_append.2 ⟨h1.floats, h2.floats⟩
  · rw [flowLines_cons]; exact List.forall_mem_append.2 ⟨h1.lines, h2.lines⟩
  · rw [flowAll_cons]; exact List.forall_mem_append.2 ⟨h1.inflow, h2.inflow⟩
  · rw [inlineOf_cons]; exact List.forall_mem_append.2 ⟨h1.inl, h2.inl⟩

theorem flowClean_ctx {P : Nat → Prop} (id : Nat) {pr : BProps} (children : List Box) (hm : pr.makesContext = true) :
    FlowClean P [.mk id pr children] := by
  constructor <;>
    simp [flowBlocks_single, floatsOf_single, flowLines_single, flowAll_single, inlineOf_single, BProps.inFlow, hm]

theorem flowClean_single {P : Nat → Prop} (id : Nat) (pr : BProps) (children : List Box) (hid : P id)
    (h : FlowClean P children) : FlowClean P [.mk id pr children] := by
  have hps := specPseudo_clean (pr := pr) hid h
  constructor
  · rw [flowBlocks_single, forall_mem_ite_nil, List.forall_mem_append, forall_mem_ite_nil, List.forall_mem_singleton]
    exact fun _ => ⟨fun _ => blockPaint_clean id pr children hid h.inflow, h.blocks⟩
  · rw [floatsOf_single]
    split
    · exact h.floats
    · rw [forall_mem_ite_nil, List.forall_mem_singleton]
      exact fun _ => hps
  · rw [flowLines_single, forall_mem_ite_nil, List.forall_mem_append, forall_mem_ite_nil, List.forall_mem_singleton]
    exact fun _ => ⟨fun _ => h.inl, h.lines⟩
  · rw [flowAll_single, forall_mem_ite_nil, List.forall_mem_cons]
    exact fun _ => ⟨hid, h.inflow⟩
  · rw [inlineOf_single]
    split
    · split
      · exact List.forall_mem_singleton.2 hid
      · split
        · exact fun _ h => nomatch h
        · exact h.inl
    · rw [forall_mem_ite_nil]
      exact fun _ => hps

theorem participants_ctx (id : Nat) {pr : BProps} (children : List Box) (hm : pr.makesContext = true) :
    participants [.mk id pr children] = [(pr.specZ, specReal (.mk id pr children))] := by
  rw [participants_single, if_pos hm]

theorem participants_noctx (id : Nat) {pr : BProps} (children : List Box) (hm : pr.makesContext = false) :
    participants [.mk id pr children]
      = (if pr.positioned then [(0, specPseudo (.mk id pr children))] else []) ++ participants children := by
  rw [participants_single, if_neg (by simp [hm])]
  split <;> rfl

theorem outClean_single {P : Nat → Prop} (id : Nat) (pr : BProps) (children : List Box) (hid : P id)
    (h : OutClean P children) : OutClean P [.mk id pr children] := by
  cases hm : pr.makesContext
  · refine (flowClean_single id pr children hid h.flow).outClean ?_
    rw [participants_noctx id children hm, List.forall_mem_append, forall_mem_ite_nil, List.forall_mem_singleton]
    exact ⟨fun _ => specPseudo_clean hid h.flow, h.parts⟩
  · refine (flowClean_ctx id children hm).outClean ?_
    rw [participants_ctx id children hm]
    exact List.forall_mem_singleton.2 (specReal_clean hid h)

theorem outClean_cons {P : Nat → Prop} {b : Box} {rest : List Box} (h1 : OutClean P [b]) (h2 : OutClean P rest) :
    OutClean P (b :: rest) := by
  refine (flowClean_cons h1.flow h2.flow).outClean ?_
  rw [participants_cons]
  exact List.forall_mem_append.2 ⟨h1.parts, h2.parts⟩

mutual
  theorem out_idsL : ∀ cs : List Box, OutClean (· ∈ idsOfL cs) cs
    | [] => flowClean_nil.outClean (by simp [participants])
    | b :: rest =>
      outClean_cons ((out_ids1 b).mono fun x hx => by simp [idsOfL, hx]) ((out_idsL rest).mono fun x hx => by simp [idsOfL, hx])
  theorem out_ids1 : ∀ b : Box, OutClean (· ∈ idsOf b) [b]
    | .mk id pr children =>
      outClean_single id pr children (by simp [idsOf]) ((out_idsL children).mono fun x hx => by simp [idsOf, hx])
end

def Around (Q : Nat → Prop) (s X : List PEv) : Prop :=
  ∃ pre post, X = pre ++ s ++ post ∧ (∀ e ∈ pre, Q e.1) ∧ (∀ e ∈ post, Q e.1)

theorem Around.refl (Q : Nat → Prop) (s : List PEv) : Around Q s s := ⟨[], [], by simp, by simp, by simp⟩

theorem Around.trans {Q : Nat → Prop} {s t X : List PEv} (h1 : Around Q s t) (h2 : Around Q t X) : Around Q s X := by
  obtain ⟨pre1, post1, rfl, hpre1, hpost1⟩ := h1
  obtain ⟨pre2, post2, rfl, hpre2, hpost2⟩ := h2
  exact ⟨pre2 ++ pre1, post1 ++ post2, by simp only [List.append_assoc],
    List.forall_mem_append.2 ⟨hpre2, hpre1⟩, List.forall_mem_append.2 ⟨hpost1, hpost2⟩⟩

theorem Around.of_perm {Q : Nat → Prop} {s : List PEv} {L rest : List (List PEv)} (hp : L.Perm (s :: rest))
    (hrest : ∀ c ∈ rest, ∀ e ∈ c, Q e.1) : Around Q s L.flatten := by
  obtain ⟨q1, q2, rfl⟩ := List.append_of_mem (hp.mem_iff.2 List.mem_cons_self)
  have hq : ∀ c ∈ q1 ++ q2, ∀ e ∈ c, Q e.1 :=
    fun c hc => hrest c ((List.perm_middle.symm.trans hp).cons_inv.mem_iff.1 hc)
  rw [List.forall_mem_append] at hq
  exact ⟨q1.flatten, q2.flatten, by simp, List.forall_mem_flatten.2 hq.1, List.forall_mem_flatten.2 hq.2⟩

theorem layers_around {Q : Nat → Prop} {id : Nat} {pr : BProps} {P1 P2 : List CCtx} (part : CCtx)
    {blocks floats lines : List (List PEv)} {inflow : List Nat}
    (hid : Q id) (hparts : ∀ p ∈ P1 ++ P2, ∀ e ∈ p.2, Q e.1) (hblocks : ∀ l ∈ blocks, ∀ e ∈ l, Q e.1)
    (hfloats : ∀ f ∈ floats, ∀ e ∈ f, Q e.1) (hlines : ∀ l ∈ lines, ∀ e ∈ l, Q e.1) (hinflow : ∀ x ∈ inflow, Q x) :
    Around Q part.2 (layers id pr (P1 ++ part :: P2) blocks floats lines inflow) := by
  rw [layers_eq_flatten]
  refine Around.of_perm ?_ (pieces_clean (pr := pr) hid hparts hblocks hfloats hlines hinflow)
  refine (pieces_perm ..).trans (.trans ?_ ((pieces_perm ..).symm.cons _))
  simp only [List.map_append, List.map_cons, List.append_assoc, List.cons_append]
  exact List.perm_middle

mutual
  theorem sub_ids : ∀ (c b : Box), b ∈ sub c → ∀ x ∈ idsOf b, x ∈ idsOf c
    | .mk id pr children, b, hb, x, hx => by
      rw [sub, List.mem_cons] at hb
      rcases hb with rfl | hb
      · exact hx
      · exact List.mem_cons_of_mem _ (subL_ids children b hb x hx)
  theorem subL_ids : ∀ (cs : List Box) (b : Box), b ∈ subL cs → ∀ x ∈ idsOf b, x ∈ idsOfL cs
    | [], b, hb, x, hx => by cases hb
    | c :: rest, b, hb, x, hx => by
      rw [subL] at hb
      rw [idsOfL]
      exact List.mem_append.2 ((List.mem_append.1 hb).imp (sub_ids c b · x hx) (subL_ids rest b · x hx))
end

/-- the first field of `Seg`, for a list of participants -/
def SegIn (b : Box) (ps : List CCtx) : Prop :=
  ∃ P1 part P2, ps = P1 ++ part :: P2 ∧ Around (· ∉ idsOf b) (specReal b) part.2
    ∧ ∀ p ∈ P1 ++ P2, ∀ e ∈ p.2, e.1 ∉ idsOf b

theorem SegIn.single {b : Box} (z : Int) {X : List PEv} (h : Around (· ∉ idsOf b) (specReal b) X) : SegIn b [(z, X)] :=
  ⟨[], (z, X), [], rfl, h, nofun⟩

theorem SegIn.append {b : Box} {ps qs : List CCtx} (h : SegIn b ps) (hq : ∀ p ∈ qs, ∀ e ∈ p.2, e.1 ∉ idsOf b) :
    SegIn b (ps ++ qs) := by
  obtain ⟨P1, part, P2, rfl, hpart, hrest⟩ := h
  refine ⟨P1, part, P2 ++ qs, by simp, hpart, ?_⟩
  rw [← List.append_assoc]
  exact List.forall_mem_append.2 ⟨hrest, hq⟩

theorem SegIn.prepend {b : Box} {ps qs : List CCtx} (hq : ∀ p ∈ qs, ∀ e ∈ p.2, e.1 ∉ idsOf b) (h : SegIn b ps) :
    SegIn b (qs ++ ps) := by
  obtain ⟨P1, part, P2, rfl, hpart, hrest⟩ := h
  refine ⟨qs ++ P1, part, P2, by simp, hpart, ?_⟩
  rw [List.append_assoc]
  exact List.forall_mem_append.2 ⟨hq, hrest⟩

/-- the traversals of `cs` seen from a real context `b` below `cs` -/
structure Seg (b : Box) (cs : List Box) : Prop where
  seg : ∃ P1 part P2 pre post, participants cs = P1 ++ part :: P2 ∧ part.2 = pre ++ specReal b ++ post
    ∧ (∀ e ∈ pre, e.1 ∉ idsOf b) ∧ (∀ e ∈ post, e.1 ∉ idsOf b) ∧ (∀ p ∈ P1 ++ P2, ∀ e ∈ p.2, e.1 ∉ idsOf b)
  blocks : ∀ l ∈ flowBlocks cs, ∀ e ∈ l, e.1 ∉ idsOf b
  floats : ∀ f ∈ floatsOf cs, ∀ e ∈ f, e.1 ∉ idsOf b
  lines : ∀ l ∈ flowLines cs, ∀ e ∈ l, e.1 ∉ idsOf b
  inflow : ∀ x ∈ flowAll cs, x ∉ idsOf b
  inl : ∀ e ∈ inlineOf cs, e.1 ∉ idsOf b

theorem Seg.flow {b : Box} {cs : List Box} (h : Seg b cs) : FlowClean (· ∉ idsOf b) cs :=
  ⟨h.blocks, h.floats, h.lines, h.inflow, h.inl⟩

theorem Seg.segIn {b : Box} {cs : List Box} (h : Seg b cs) : SegIn b (participants cs) :=
  let ⟨P1, part, P2, pre, post, hp, hpart, hpre, hpost, hrest⟩ := h.seg
  ⟨P1, part, P2, hp, ⟨pre, post, hpart, hpre, hpost⟩, hrest⟩

theorem FlowClean.seg {b : Box} {cs : List Box} (h : FlowClean (· ∉ idsOf b) cs) (hs : SegIn b (participants cs)) : Seg b cs :=
  let ⟨P1, part, P2, hp, ⟨pre, post, hpart, hpre, hpost⟩, hrest⟩ := hs
  ⟨⟨P1, part, P2, pre, post, hp, hpart, hpre, hpost, hrest⟩, h.blocks, h.floats, h.lines, h.inflow, h.inl⟩

theorem specReal_of_seg (b : Box) (id : Nat) (pr : BProps) (children : List Box) (hid : id ∉ idsOf b)
    (h : Seg b children) : Around (· ∉ idsOf b) (specReal b) (specReal (.mk id pr children)) := by
  obtain ⟨P1, part, P2, hp, hpart, hrest⟩ := h.segIn
  rw [specReal, hp]
  exact Around.trans hpart
    (layers_around part hid hrest h.blocks h.floats (h.flow.ownLines pr) h.inflow)

theorem seg_single (b : Box) (id : Nat) (pr : BProps) (children : List Box)
    (hnd : (idsOf (.mk id pr children)).Nodup) (hb : b ∈ sub (.mk id pr children)) (hctx : b.pr.makesContext = true)
    (ih : b ∈ subL children → Seg b children) : Seg b [.mk id pr children] := by
  rw [sub, List.mem_cons] at hb
  rw [idsOf, List.nodup_cons] at hnd
  have hid : b ∈ subL children → id ∉ idsOf b := fun hb hx => hnd.1 (subL_ids children b hb id hx)
  cases hm : pr.makesContext
  · -- the box stays in the enclosing context, and `b` lies below it
    have hb' : b ∈ subL children := hb.resolve_left fun h => by simp [h, Box.pr, hm] at hctx
    have hc := ih hb'
    refine (flowClean_single id pr children (hid hb') hc.flow).seg ?_
    rw [participants_noctx id children hm]
    refine SegIn.prepend ?_ hc.segIn
    rw [forall_mem_ite_nil, List.forall_mem_singleton]
    exact fun _ => specPseudo_clean (hid hb') hc.flow
  · -- a real context: its only trace in the traversals is the participant (z, specReal c)
    refine (flowClean_ctx id children hm).seg ?_
    rw [participants_ctx id children hm]
    refine SegIn.single _ ?_
    rcases hb with rfl | hb
    · exact Around.refl _ _
    · exact specReal_of_seg b id pr children (hid hb) (ih hb)

mutual
  theorem seg1 : ∀ (c b : Box), (idsOf c).Nodup → b ∈ sub c → b.pr.makesContext = true → Seg b [c]
    | .mk id pr children, b, hnd, hb, hctx =>
      seg_single b id pr children hnd hb hctx
        (fun hb' => segL children b (by rw [idsOf, List.nodup_cons] at hnd; exact hnd.2) hb' hctx)
  theorem segL : ∀ (cs : List Box) (b : Box), (idsOfL cs).Nodup → b ∈ subL cs → b.pr.makesContext = true → Seg b cs
    | [], b, _, hb, _ => by cases hb
    | c :: rest, b, hnd, hb, hctx => by
      rw [idsOfL, List.nodup_append] at hnd
      obtain ⟨hn1, hn2, hdis⟩ := hnd
      rw [subL, List.mem_append] at hb
      -- the side of `c :: rest` that does not hold `b` mentions none of its ids
      rcases hb with hb | hb
      · have h1 := seg1 c b hn1 hb hctx
        have h2 : OutClean (· ∉ idsOf b) rest :=
          (out_idsL rest).mono fun x hx hxb => hdis x (sub_ids c b hb x hxb) x hx rfl
        refine (flowClean_cons h1.flow h2.flow).seg ?_
        rw [participants_cons]
        exact SegIn.append h1.segIn h2.parts
      · have h1 : OutClean (· ∉ idsOf b) [c] :=
          (out_ids1 c).mono fun x hx hxb => hdis x hx x (subL_ids rest b hb x hxb) rfl
        have h2 := segL rest b hn2 hb hctx
        refine (flowClean_cons h1.flow h2.flow).seg ?_
        rw [participants_cons]
        exact SegIn.prepend h1.parts h2.segIn
end

/-- The root is painted as a context whatever its properties, hence `∨ b = root`. -/
theorem trace_segment (root b : Box) (hnd : (idsOf root).Nodup) (hb : b ∈ sub root)
    (hctx : b.pr.makesContext = true ∨ b = root) :
    Around (· ∉ idsOf b) (specReal b) (specOrder root) ∧ (∀ e ∈ specReal b, e.1 ∈ idsOf b) := by
  refine ⟨?_, ?_⟩
  · cases root with
    | mk id pr children =>
      rw [sub, List.mem_cons] at hb
      rw [idsOf, List.nodup_cons] at hnd
      rcases hb with rfl | hb
      · exact Around.refl _ _
      · have hid : id ∉ idsOf b := fun hx => hnd.1 (subL_ids children b hb id hx)
        -- b = root would put root's id among its children's ids
        have hctx' : b.pr.makesContext = true := hctx.resolve_right fun h => hid (by simp [h, idsOf])
        exact specReal_of_seg b id pr children hid (segL children b hnd.2 hb hctx')
  · cases b with
    | mk id pr children =>
      exact specReal_clean (P := (· ∈ idsOf (.mk id pr children))) (by simp [idsOf])
        ((out_idsL children).mono fun x hx => by simp [idsOf, hx])

end WR.C16
