/-
  C16 — the stable sort used by NewStackingContext, and: the single-pass dispatch of stacking.go computes the
  per-layer traversals of the Appendix E spec.
-/
import WR.C16.Spec
namespace WR.C16

theorem insertZ_perm (x : CCtx) : ∀ l : List CCtx, (insertZ x l).Perm (x :: l) := by
  intro l
  induction l with
  | nil => simp [insertZ]
  | cons y ys ih =>
    by_cases h : x.1 ≤ y.1
    · simp [insertZ, h]
    · simp only [insertZ, h, if_false]
      exact (List.Perm.cons y ih).trans (List.Perm.swap x y ys)

theorem insertZ_sorted (x : CCtx) : ∀ l : List CCtx, l.Pairwise (fun a b => a.1 ≤ b.1) →
    (insertZ x l).Pairwise (fun a b => a.1 ≤ b.1) := by
  intro l
  induction l with
  | nil => intro _; simp [insertZ]
  | cons y ys ih =>
    intro hs
    have hy := List.pairwise_cons.mp hs
    by_cases h : x.1 ≤ y.1
    · simp only [insertZ, h, if_true]
      refine List.pairwise_cons.mpr ⟨?_, hs⟩
      intro a ha
      simp only [List.mem_cons] at ha
      rcases ha with rfl | ha
      · exact h
      · exact Int.le_trans h (hy.1 a ha)
    · simp only [insertZ, h, if_false]
      refine List.pairwise_cons.mpr ⟨?_, ih hy.2⟩
      intro a ha
      have := (insertZ_perm x ys).mem_iff.mp ha
      simp only [List.mem_cons] at this
      rcases this with rfl | ha'
      · omega
      · exact hy.1 a ha'

/-- stability: among the entries of one z-index, x (the earlier entry) stays in front -/
theorem insertZ_filter (x : CCtx) (z : Int) : ∀ l : List CCtx, l.Pairwise (fun a b => a.1 ≤ b.1) →
    (insertZ x l).filter (fun a => a.1 == z) = (x :: l).filter (fun a => a.1 == z) := by
  intro l
  induction l with
  | nil => intro _; simp [insertZ]
  | cons y ys ih =>
    intro hs
    have hy := List.pairwise_cons.mp hs
    by_cases h : x.1 ≤ y.1
    · simp [insertZ, h]
    · simp only [insertZ, h, if_false]
      rw [List.filter_cons, ih hy.2]
      -- x.1 > y.1: x and y cannot both have z-index z
      by_cases hyz : y.1 = z
      · have hxz : ¬ x.1 = z := by omega
        simp [hyz, hxz]
      · simp [List.filter_cons, hyz]

theorem sortZ_perm : ∀ l : List CCtx, (sortZ l).Perm l
  | [] => .nil
  | x :: xs => (insertZ_perm x _).trans ((sortZ_perm xs).cons x)

theorem signs_perm (own : List CCtx) :
    (own.filter (·.1 < 0) ++ own.filter (·.1 == 0) ++ own.filter (·.1 > 0)).Perm own := by
  induction own with
  | nil => exact .nil
  | cons x xs ih =>
    simp only [List.filter_cons]
    rcases Int.lt_trichotomy x.1 0 with h | h | h
    · rw [if_pos (by simpa using h), if_neg (by simp; omega), if_neg (by simp; omega)]
      exact ih.cons x
    · rw [if_neg (by simp; omega), if_pos (by simpa using h), if_neg (by simp; omega)]
      exact (List.perm_middle.append_right _).trans (ih.cons x)
    · rw [if_neg (by simp; omega), if_neg (by simp; omega), if_pos (by simpa using h)]
      exact List.perm_middle.trans (ih.cons x)

/-- what dispatching the boxes `cs` adds to the accumulated lists, in the spec's terms -/
def Acc.add (acc : Acc) (cs : List Box) : Acc :=
  { childContexts := acc.childContexts ++ participants cs
    blocks := acc.blocks ++ flowBlocks cs
    floats := acc.floats ++ floatsOf cs
    blocksAndCells := acc.blocksAndCells ++ flowLines cs
    kept := acc.kept ++ flowAll cs }

theorem insertAt_append {α : Type} (a r : List α) (x : α) : insertAt (a ++ r) a.length x = a ++ x :: r := by
  simp [insertAt]

theorem Acc.add_nil (acc : Acc) : acc.add [] = acc := by
  simp [Acc.add, participants, flowBlocks, floatsOf, flowLines, flowAll]

theorem participants_cons (b : Box) (rest : List Box) :
    participants (b :: rest) = participants [b] ++ participants rest := by
  cases b; simp [participants]

theorem flowBlocks_cons (b : Box) (rest : List Box) :
    flowBlocks (b :: rest) = flowBlocks [b] ++ flowBlocks rest := by
  cases b; simp [flowBlocks]

theorem floatsOf_cons (b : Box) (rest : List Box) :
    floatsOf (b :: rest) = floatsOf [b] ++ floatsOf rest := by
  cases b; simp [floatsOf]

theorem flowLines_cons (b : Box) (rest : List Box) :
    flowLines (b :: rest) = flowLines [b] ++ flowLines rest := by
  cases b; simp [flowLines]

theorem inlineOf_cons (b : Box) (rest : List Box) :
    inlineOf (b :: rest) = inlineOf [b] ++ inlineOf rest := by
  cases b; simp [inlineOf]

theorem flowAll_cons (b : Box) (rest : List Box) :
    flowAll (b :: rest) = flowAll [b] ++ flowAll rest := by
  cases b; simp [flowAll]

theorem participants_single (id : Nat) (pr : BProps) (ch : List Box) : participants [.mk id pr ch]
    = if pr.makesContext then [(pr.specZ, specReal (.mk id pr ch))]
      else if pr.positioned then (0, specPseudo (.mk id pr ch)) :: participants ch else participants ch := by
  rw [participants, participants, List.append_nil]

theorem flowBlocks_single (id : Nat) (pr : BProps) (ch : List Box) : flowBlocks [.mk id pr ch]
    = if pr.inFlow then (if pr.blockLevel then [blockPaint id pr ch] else []) ++ flowBlocks ch else [] := by
  rw [flowBlocks, flowBlocks, List.append_nil]

theorem floatsOf_single (id : Nat) (pr : BProps) (ch : List Box) : floatsOf [.mk id pr ch]
    = if pr.inFlow then floatsOf ch
      else if !pr.makesContext && !pr.positioned && pr.floated then [specPseudo (.mk id pr ch)] else [] := by
  rw [floatsOf, floatsOf, List.append_nil]

theorem flowLines_single (id : Nat) (pr : BProps) (ch : List Box) : flowLines [.mk id pr ch]
    = if pr.inFlow then (if (pr.blockLevel || pr.tableCell) && pr.hasLines then [inlineOf ch] else []) ++ flowLines ch
      else [] := by
  rw [flowLines, flowLines, List.append_nil]

theorem flowAll_single (id : Nat) (pr : BProps) (ch : List Box) :
    flowAll [.mk id pr ch] = if pr.inFlow then id :: flowAll ch else [] := by
  rw [flowAll, flowAll, List.append_nil]

theorem inlineOf_single (id : Nat) (pr : BProps) (ch : List Box) : inlineOf [.mk id pr ch]
    = if pr.inFlow then (if pr.text then [(id, Layer.content)] else if pr.blockLevel then [] else inlineOf ch)
      else if !pr.makesContext && !pr.positioned && !pr.floated && pr.inlineBlock then specPseudo (.mk id pr ch)
      else [] := by
  rw [inlineOf, inlineOf, List.append_nil]

theorem Acc.add_cons (acc : Acc) (b : Box) (rest : List Box) :
    acc.add (b :: rest) = (acc.add [b]).add rest := by
  simp only [Acc.add]
  rw [participants_cons, flowBlocks_cons, floatsOf_cons, flowLines_cons, flowAll_cons]
  simp [List.append_assoc]

theorem finishCtx_eq (id : Nat) (pr : BProps) (acc : Acc) (own : List CCtx) (inl : List PEv) :
    finishCtx id pr acc own inl
      = layers id pr own acc.blocks acc.floats ((if pr.hasLines then [inl] else []) ++ acc.blocksAndCells) acc.kept := rfl

/-- a real context -/
theorem ctx_none_of (id : Nat) (pr : BProps) (children : List Box)
    (h : ∀ acc, dispatchChildren children acc = (acc.add children, inlineOf children)) :
    ctxOfBox (.mk id pr children) none = (specReal (.mk id pr children), []) := by
  rw [ctxOfBox, h, specReal]
  simp only [finishCtx_eq, Acc.add, Option.getD_none, List.nil_append]

/-- a fake context (positioned z-index:auto box, float, inline-block) -/
theorem ctx_some_of (id : Nat) (pr : BProps) (children : List Box) (cc : List CCtx)
    (h : ∀ acc, dispatchChildren children acc = (acc.add children, inlineOf children)) :
    ctxOfBox (.mk id pr children) (some cc)
      = (specPseudo (.mk id pr children), cc ++ participants children) := by
  rw [ctxOfBox, h, specPseudo]
  simp only [finishCtx_eq, Acc.add, Option.getD_some, List.nil_append]

mutual
  theorem dispatchChildren_eq : ∀ (cs : List Box) (acc : Acc), dispatchChildren cs acc = (acc.add cs, inlineOf cs)
    | [], acc => by simp [dispatchChildren, Acc.add_nil, inlineOf]
    | ch :: rest, acc => by
      rw [dispatchChildren, dispatch_eq ch acc]
      simp only
      rw [dispatchChildren_eq rest, ← Acc.add_cons, ← inlineOf_cons]

  theorem dispatch_eq : ∀ (b : Box) (acc : Acc), dispatch b acc = (acc.add [b], inlineOf [b])
    | .mk id pr children, acc => by
      have hch := dispatchChildren_eq children
      have hn := ctx_none_of id pr children hch
      have hs := fun cc => ctx_some_of id pr children cc hch
      rw [Acc.add, participants_single, flowBlocks_single, floatsOf_single, flowLines_single, flowAll_single, inlineOf_single,
        dispatch]
      -- the cases of the dispatch, last first
      cases hm : pr.makesContext
      · cases hp : pr.positioned
        · cases hf : pr.floated
          · cases hi : pr.inlineBlock
            · -- in flow: the two conditional inserts put the box's own entries in front of its children's
              generalize ((pr.blockLevel || pr.tableCell) && pr.hasLines) = c
              cases c <;> cases pr.blockLevel <;>
                simp [hm, hp, hf, hi, hch, insertAt_append, Acc.add, BProps.inFlow, List.append_assoc]
            · simp [hm, hp, hf, hi, hs, BProps.inFlow]
          · simp [hm, hp, hf, hs, BProps.inFlow]
        · simp [hm, hp, hs, insertAt_append, BProps.inFlow]
      · simp [hm, hn, BProps.inFlow, BProps.specZ, BProps.zIndex]
end

end WR.C16
