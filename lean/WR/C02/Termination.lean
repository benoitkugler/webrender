/-
  C02 — progress of the page loop (the statement DESIGN.md §5 lists under C01 as `paginate_progress`): on an
  empty page a well-formed box resumed at a proper position places at least one line and returns a proper
  position (for every oracle), hence `pagesLoop` ends within 2·#lines+1 pages.
-/
import WR.C02.Lemmas
namespace WR.C02

variable {γ : Type}

def Boxes.isNil : Boxes → Bool
  | .nil => true
  | _ => false

mutual
def Box.wf : Box → Bool
  | .para st ls => decide (1 ≤ st.orph) && !ls.isEmpty
  | .block _ ks => !ks.isNil && ks.wf
def Boxes.wf : Boxes → Bool
  | .nil => true
  | .cons b bs => b.wf && bs.wf
end

mutual
def proper : Box → RS → Bool
  | .para _ ls, s => decide (lineOf s < ls.length)
  | .block _ _, .start => true
  | .block _ ks, .at i sub => ks.properAt i sub
def Boxes.properAt : Boxes → Nat → RS → Bool
  | .nil, _, _ => false
  | .cons b _, 0, sub => proper b sub
  | .cons _ bs, i+1, sub => bs.properAt i sub
end

theorem proper_start (b : Box) (h : b.wf = true) : proper b .start = true := by
  cases b with
  | para st ls =>
    simp only [Box.wf, Bool.and_eq_true, decide_eq_true_eq, Bool.not_eq_true'] at h
    cases ls with
    | nil => simp at h
    | cons l ls => simp [proper, lineOf]
  | block st ks => simp [proper]

mutual
theorem from_ne : ∀ (b : Box) (s : RS), b.wf = true → proper b s = true → b.from s ≠ []
  | .para st ls, s, _, hp => by
    simp only [proper, decide_eq_true_eq] at hp
    simp only [Box.from]
    intro h
    have := congrArg List.length h
    simp at this
    omega
  | .block st .nil, .start, hw, _ => by simp [Box.wf, Boxes.isNil] at hw
  | .block st (.cons c ks), .start, hw, _ => by
    simp only [Box.wf, Boxes.wf, Bool.and_eq_true] at hw
    have := from_ne c .start hw.2.1 (proper_start c hw.2.1)
    rw [Box.from_start] at this
    simp [Box.from, Boxes.leaves, this]
  | .block st ks, .at i sub, hw, hp => by
    simp only [Box.wf, Bool.and_eq_true] at hw
    simp only [proper] at hp
    simpa [Box.from] using fromAt_ne ks i sub hw.2 hp
theorem fromAt_ne : ∀ (ks : Boxes) (i : Nat) (sub : RS), ks.wf = true → ks.properAt i sub = true → ks.fromAt i sub ≠ []
  | .nil, _, _, _, hp => by simp [Boxes.properAt] at hp
  | .cons c ks, 0, sub, hw, hp => by
    simp only [Boxes.wf, Bool.and_eq_true] at hw
    simp only [Boxes.properAt] at hp
    simp [Boxes.fromAt, from_ne c sub hw.1 hp]
  | .cons c ks, i+1, sub, hw, hp => by
    simp only [Boxes.wf, Bool.and_eq_true] at hw
    simp only [Boxes.properAt] at hp
    simpa [Boxes.fromAt] using fromAt_ne ks i sub hw.2 hp
end

def BProp (b : Box) (br : BRes γ) : Prop :=
  br.frag.leaves ≠ [] ∧
  (∀ r, br.resume = some r → proper b r = true) ∧
  (br.resume = none → ∀ f' r', br.eb = some (f', r') → proper b r' = true ∧ f'.leaves ≠ [])

def PR (ks : Boxes) (index : Nat) : Option RS → Prop
  | none => True
  | some .start => False
  | some (.at i s) => index ≤ i ∧ ks.properAt (i - index) s = true

theorem properAt_cons_lt (c : Box) (ks : Boxes) {index i : Nat} (s : RS) (h : index < i) :
    (Boxes.cons c ks).properAt (i - index) s = ks.properAt (i - (index+1)) s := by
  rw [show i - index = (i - (index+1)) + 1 by omega, Boxes.properAt]

theorem PR_cons (c : Box) (ks : Boxes) (index : Nat) (r : Option RS) (h : PR ks (index+1) r) :
    PR (.cons c ks) index r := by
  match r, h with
  | none, _ => trivial
  | some (.at i s), ⟨h1, h2⟩ => exact ⟨by omega, by rw [properAt_cons_lt c ks s h1]; exact h2⟩

theorem PR_here (c : Box) (ks : Boxes) (index : Nat) (r : RS) (h : proper c r = true) :
    PR (.cons c ks) index (some (.at index r)) := by
  refine ⟨Nat.le_refl _, ?_⟩
  rw [Nat.sub_self, Boxes.properAt]; exact h

theorem PR_block {st : St} {ks : Boxes} {rs : RS} (h : PR ks 0 (some rs)) : proper (.block st ks) rs = true := by
  match rs, h with
  | .at i s, ⟨_, hp⟩ => exact hp

theorem proper_block {st : St} {ks : Boxes} {s : RS} (hw : (Box.block st ks).wf = true)
    (hp : proper (.block st ks) s = true) : ks.wf = true ∧ ks.properAt (startIdx s) (startSub s) = true := by
  simp only [Box.wf, Bool.and_eq_true, Bool.not_eq_true'] at hw
  refine ⟨hw.2, ?_⟩
  cases s with
  | start =>
    cases ks with
    | nil => simp [Boxes.isNil] at hw
    | cons c ks =>
      simp only [Boxes.wf, Bool.and_eq_true] at hw
      exact proper_start c hw.2.1
  | «at» i sub => exact hp

def HeadPR (ks : Boxes) (index : Nat) (fs : Frags) : Prop :=
  ∀ i c2, fs.headIdxSrc = some (i, c2) → PR ks index (some (.at i .start))

def KProp (ks : Boxes) (index : Nat) (prev : Option Box) : KOut γ → Prop
  | .abort _ => True
  | .ok fs r _ eb _ =>
    PR ks index r ∧ HeadPR ks index fs ∧ (prev = none → fs.leaves ≠ []) ∧
    (r = none → ∀ fs' rs, eb = some (fs', rs) → PR ks index (some rs) ∧ fs'.leaves ≠ [])
  | .need fs fl _ _ _ => PR ks index (some (.at fl .start)) ∧ HeadPR ks index fs ∧ (prev = none → fs.leaves ≠ [])

theorem ebCons_prop (c : Box) (ks : Boxes) (index : Nat) (br : BRes γ) (fs : Frags) (fsEb : EB Frags)
    (hbp : BProp c br) (hres : br.resume = none) (hhead : HeadPR ks (index+1) fs)
    (hEb : ∀ fs' rs, fsEb = some (fs', rs) → PR ks (index+1) (some rs))
    {fs' : Frags} {rs : RS} (h : ebCons index c br.frag br.eb fs fsEb = some (fs', rs)) :
    PR (.cons c ks) index (some rs) ∧ fs'.leaves ≠ [] := by
  rcases ebCons_eq_some h with ⟨fs2, hfe, rfl⟩ | ⟨i2, c2, hhd, rfl, rfl⟩ | ⟨cf', r, heb, rfl, rfl⟩
  · exact ⟨PR_cons c ks index _ (hEb fs2 rs hfe), by simp [Frags.leaves, hbp.1]⟩
  · exact ⟨PR_cons c ks index _ (hhead i2 c2 hhd), by simp [Frags.leaves, hbp.1]⟩
  · obtain ⟨h1, h2⟩ := hbp.2.2 hres cf' r heb
    exact ⟨PR_here c ks index r h1, by simp [Frags.leaves, h2]⟩

theorem HeadPR_cons {c : Box} {ks : Boxes} {index : Nat} (h : PR (.cons c ks) index (some (.at index .start)))
    (f : Frag) (fs : Frags) : HeadPR (.cons c ks) index (.cons index c f fs) := by
  intro i c2 hh
  simp only [Frags.headIdxSrc, Option.some.injEq, Prod.mk.injEq] at hh
  rw [← hh.1]
  exact h

theorem kid_proper {c : Box} {ks : Boxes} {index i0 : Nat} {sub : RS} (hw : (Boxes.cons c ks).wf = true)
    (hpos : index ≤ i0 → (Boxes.cons c ks).properAt (i0 - index) sub = true) :
    c.wf = true ∧ proper c (if index = i0 then sub else .start) = true ∧
      PR (.cons c ks) index (some (.at index .start)) := by
  simp only [Boxes.wf, Bool.and_eq_true] at hw
  refine ⟨hw.1, ?_, PR_here c ks index .start (proper_start c hw.1)⟩
  by_cases he : index = i0
  · have := hpos (Nat.le_of_eq he)
    rw [he, Nat.sub_self, Boxes.properAt] at this
    rw [if_pos he]
    exact this
  · rw [if_neg he]
    exact proper_start c hw.1

/-- `prev` is set exactly when the loop is past the child the resume position addresses -/
theorem prop_cases (O : Oracle γ) :
    LayCases O (fun b s _ out => b.wf = true → proper b s = true → ∀ br, out = .ok br → BProp b br)
      (fun ks index i0 sub prev _ out => ks.wf = true → (index ≤ i0 → ks.properAt (i0 - index) sub = true) →
        (prev.isSome ↔ i0 < index) → KProp ks index prev out) where
  para st ls s g pie hw hp br h := by
    simp only [Box.wf, Bool.and_eq_true, decide_eq_true_eq] at hw
    simp only [proper, decide_eq_true_eq] at hp
    obtain ⟨new, hf, ⟨k, hnew, hk, hk1, hr⟩ | ⟨hnew, hr, he⟩⟩ := layBox_para_ok h
    · obtain ⟨_, c2, c3⟩ := cut_spec (.at 0 (.at (lineOf s) .start)) hnew hk (fun _ => rfl)
      exact ⟨by simpa [hf, Frag.leaves] using c3 (hk1 hw.1), by simpa [hr, proper] using c2, by simp [hr]⟩
    · refine ⟨?_, by simp [hr], fun _ f' r' heb => ?_⟩
      · rw [hf, Frag.leaves, leaves_of_tags hnew]
        intro h0
        have := congrArg List.length h0
        simp at this
        omega
      · obtain ⟨m, kept, h1, hm, hkept, rfl, rfl⟩ := paraEb_cut hnew (he ▸ heb)
        rw [tagFrom_length, List.length_drop] at hm
        obtain ⟨_, c2, c3⟩ := cut_spec (.at 0 .start) hkept hm (by omega)
        exact ⟨by simpa [proper] using c2, by simpa [Frag.leaves] using c3 h1⟩
  block st ks s gE pie out ih hw hp br h := by
    obtain ⟨fs, r, eb, hf, hr, he, hout⟩ := blockOut_ok h
    have ih := ih (proper_block hw hp).1 (fun _ => (proper_block hw hp).2) (by simp)
    have ⟨h1, h3, h4⟩ : PR ks 0 r ∧ fs.leaves ≠ [] ∧
        (r = none → ∀ fs' rs, eb = some (fs', rs) → PR ks 0 (some rs) ∧ fs'.leaves ≠ []) := by
      rcases hout with ⟨g, nb, rfl⟩ | ⟨fl, g, nb, pgc, rfl, rfl, rfl⟩
      · exact ⟨ih.1, ih.2.2.1 rfl, ih.2.2.2⟩
      · exact ⟨ih.1, ih.2.2 rfl, nofun⟩
    refine ⟨hf ▸ h3, fun r' hr' => PR_block (hr' ▸ hr ▸ h1), fun hres f' r' heb => ?_⟩
    rw [he, Option.map_eq_some_iff] at heb
    obtain ⟨⟨fs', rs⟩, hebv, heq⟩ := heb
    cases heq
    exact ⟨PR_block (h4 (hr ▸ hres) fs' rs hebv).1, (h4 (hr ▸ hres) fs' rs hebv).2⟩
  nil index i0 sub prev g pie nb _ hpos hprev := by
    refine ⟨trivial, nofun, fun hp => ?_, nofun⟩
    have hle : index ≤ i0 := by subst hp; simpa using hprev
    simpa [Boxes.properAt] using hpos hle
  skip c ks index i0 sub prev pie out hlt ih hw hpos hprev := by
    simp only [Boxes.wf, Bool.and_eq_true] at hw
    have ih := ih hw.2 (fun _ => by rw [← properAt_cons_lt c ks sub hlt]; exact hpos (by omega))
      (by rw [hprev]; omega)
    have up : ∀ fs, HeadPR ks (index+1) fs → HeadPR (.cons c ks) index fs :=
      fun fs h i c2 hh => PR_cons c ks index _ (h i c2 hh)
    cases out with
    | abort pg => trivial
    | need fs fl g' nbF pgc => exact ⟨PR_cons c ks index _ ih.1, up fs ih.2.1, ih.2.2⟩
    | ok fs r g' eb nb' =>
      obtain ⟨h1, h2, h3, h4⟩ := ih
      exact ⟨PR_cons c ks index _ h1, up fs h2, h3, fun hres fs' rs hebv =>
        ⟨PR_cons c ks index _ (h4 hres fs' rs hebv).1, (h4 hres fs' rs hebv).2⟩⟩
  stop _ _ _ _ _ _ _ _ _ _ hw hpos _ := ⟨(kid_proper hw hpos).2.2, nofun, nofun, nofun⟩
  need _ _ _ _ _ _ _ _ _ _ _ hw hpos _ := ⟨(kid_proper hw hpos).2.2, nofun, nofun⟩
  cancel _ _ _ _ _ _ _ _ _ _ _ _ _ := trivial
  part c ks index i0 sub prev g pie br r' hlt hbr hres hw hpos _ := by
    obtain ⟨hwc, hskip, hstart⟩ := kid_proper hw hpos
    obtain ⟨hne, hpr, _⟩ := hbr hwc hskip br rfl
    exact ⟨PR_here c ks index r' (hpr r' hres), HeadPR_cons hstart _ _, fun _ => by simp [Frags.leaves, hne], nofun⟩
  cons c ks index i0 sub prev pie br out hlt hbr hres ih hw hpos _ := by
    obtain ⟨hwc, hskip, hstart⟩ := kid_proper hw hpos
    have hbp := hbr hwc hskip br rfl
    simp only [Boxes.wf, Bool.and_eq_true] at hw
    have ih := ih hw.2 (fun hle => by omega) (by simp; omega)
    have hne : ∀ fs, (Frags.cons index c br.frag fs).leaves ≠ [] := fun fs => by simp [Frags.leaves, hbp.1]
    cases out with
    | abort pg => trivial
    | ok fs r2 g2 eb nb2 =>
      obtain ⟨h1, h2, _, h4⟩ := ih
      exact ⟨PR_cons c ks index _ h1, HeadPR_cons hstart _ _, fun _ => hne fs, fun hr2 fs' rs hebv =>
        ebCons_prop c ks index br fs eb hbp hres h2 (fun fs' rs he => (h4 hr2 fs' rs he).1) hebv⟩
    | need fs fl g2 nbF pgc =>
      obtain ⟨h1, h2, _⟩ := ih
      simp only [consOut]
      cases hebc : ebCons index c br.frag br.eb fs none with
      | some p =>
        have := ebCons_prop c ks index br fs none hbp hres h2 nofun hebc
        refine ⟨this.1, fun i c2 hh => ?_, fun _ => this.2, nofun⟩
        rw [ebCons_head hebc i c2 hh]
        exact hstart
      | none => exact ⟨PR_cons c ks index _ h1, HeadPR_cons hstart _ _, fun _ => hne fs⟩

theorem layBox_prop (O : Oracle γ) (b : Box) (s : RS) (g : γ) (pie : Bool) (br : BRes γ)
    (hw : b.wf = true) (hp : proper b s = true) (h : layBox O b s g pie = .ok br) : BProp b br :=
  layBox_induct (prop_cases O) b s g pie hw hp br h

def KProg : KOut γ → Prop
  | .abort _ => True
  | .ok fs _ _ _ _ => fs.leaves ≠ []
  | .need fs _ _ _ _ => fs.leaves ≠ []

theorem layKids_prog (O : Oracle γ) : ∀ (ks : Boxes) (index i0 : Nat) (sub : RS) (g : γ) (nb : NextPage),
    ks.wf = true → index ≤ i0 → ks.properAt (i0 - index) sub = true →
    KProg (layKids O ks index i0 sub none g true nb) := by
  intro ks index i0 sub g nb hw hle hp
  have := layKids_induct (prop_cases O) ks index i0 sub none g true nb hw (fun _ => hp) (by simp; omega)
  cases hout : layKids O ks index i0 sub none g true nb with
  | abort pg => trivial
  | ok fs r g' eb nb' => rw [hout] at this; exact this.2.2.1 rfl
  | need fs fl g' nbF pgc => rw [hout] at this; exact this.2.2 rfl

/-- every page that is not blank places a line and a blank page is not followed by a blank page: two units
    of fuel for each line left are enough -/
theorem pagesLoop_done (P : PageInfo → Oracle γ × γ) (ltr : Bool) (root : Box) (hw : root.wf = true)
    (fuel index : Nat) (s : PState) (hp : proper root s.resume = true)
    (hf : 2 * (root.from s.resume).length ≤ fuel + (if (pageInfo ltr index s).blank then 0 else 1)) :
    (pagesLoop P ltr root fuel index s).done = true := by
  have pos : ∀ l : List Nat, l ≠ [] → 1 ≤ l.length := fun l h => List.length_pos_iff.mpr h
  refine pagesLoop_induct P ltr root
    (M := fun fuel index s r => proper root s.resume = true →
      2 * (root.from s.resume).length ≤ fuel + (if (pageInfo ltr index s).blank then 0 else 1) → r.done = true)
    ?_ ?_ (fun _ _ _ _ _ _ _ _ _ => rfl) ?_ fuel index s hp hf
  · intro index s hp hf
    have := pos _ (from_ne root s.resume hw hp)
    split at hf <;> omega
  · intro fuel index s r hb ih hp hf
    rw [if_pos hb] at hf
    exact ih hp (by rw [blank_then_not_blank ltr index s hb]; simp only [Bool.false_eq_true, if_false]; omega)
  · intro fuel index s br r' r hb hbr hr ih hp hf
    rw [hb] at hf
    obtain ⟨hne, hpr, _⟩ := layBox_prop _ root s.resume _ true br hw hp hbr
    have hcons := (layBox_good _ root s.resume _ true br hbr).1
    rw [hr, fromOpt] at hcons
    have hlen := congrArg List.length hcons
    rw [List.length_append] at hlen
    have := pos _ hne
    exact ih (hpr r' hr) (by dsimp only; split <;> simp at hf <;> omega)

theorem paginate_done (P : PageInfo → Oracle γ × γ) (ltr : Bool) (root : Box) (hw : root.wf = true) :
    (paginate P ltr root (2 * root.leaves.length + 1)).done = true := by
  unfold paginate
  apply pagesLoop_done P ltr root hw
  · exact proper_start root hw
  · simp only [initState, Box.from_start]
    split <;> omega

end WR.C02
