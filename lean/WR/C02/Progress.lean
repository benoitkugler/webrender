/-
  C02 — the shape of the model's recursions.  The line loop places some lines and then ends or calls `breakLine`
  (`layLines_eq`); `layBox` / `layKids` get an induction principle by the form of the result (`LayCases`), first
  used for: with `pageIsEmpty` a box is never cancelled, for every oracle.  Then the page loop, and: no blank
  page follows a blank page.
-/
import WR.C02.Model
namespace WR.C02

variable {γ : Type}

/-- lines `breakLine` takes back for the widows of the rest of the paragraph -/
def widowsNeeded (st : St) (remainingAfterCurrent : Nat) : Nat :=
  (st.wid - 1) - min (st.wid - 1) remainingAfterCurrent

def afterWidows (st : St) (placed : List FLine) (remainingAfterCurrent : Nat) : List FLine :=
  let needed := widowsNeeded st remainingAfterCurrent
  if needed ≠ 0 ∧ needed + st.orph ≤ placed.length then placed.take (placed.length - needed) else placed

theorem afterWidows_eq_take (st : St) (placed : List FLine) (after : Nat) :
    ∃ k, afterWidows st placed after = placed.take k ∧ k ≤ placed.length ∧ (k = placed.length ∨ st.orph ≤ k) := by
  unfold afterWidows
  dsimp only
  split
  · exact ⟨_, rfl, Nat.sub_le _ _, .inr (by omega)⟩
  · exact ⟨_, List.take_length.symm, Nat.le_refl _, .inl rfl⟩

/-- Go's `breakLine`, `after` lines following the one that does not fit -/
def breakOut (st : St) (pie : Bool) (new : List FLine) (g : γ) (after : Nat) : LRes γ :=
  if new.length < st.orph && !pie then { abort := true, stop := false, new, g }
  else if new.length < widowsNeeded st after + st.orph && !pie then { abort := true, stop := false, new, g }
  else { abort := false, stop := true, new := afterWidows st new after, g }

theorem breakOut_cases (st : St) (pie : Bool) (new : List FLine) (g : γ) (after : Nat) :
    (breakOut st pie new g after = { abort := true, stop := false, new, g } ∧ pie = false ∧
      (new.length < st.orph ∨ new.length < widowsNeeded st after + st.orph)) ∨
    (breakOut st pie new g after = { abort := false, stop := true, new := afterWidows st new after, g } ∧
      (pie = false → st.orph ≤ new.length)) := by
  unfold breakOut
  by_cases h1 : (decide (new.length < st.orph) && !pie) = true
  · rw [if_pos h1]
    simp only [Bool.and_eq_true, decide_eq_true_eq, Bool.not_eq_true'] at h1
    exact .inl ⟨rfl, h1.2, .inl h1.1⟩
  · rw [if_neg h1]
    by_cases h2 : (decide (new.length < widowsNeeded st after + st.orph) && !pie) = true
    · rw [if_pos h2]
      simp only [Bool.and_eq_true, decide_eq_true_eq, Bool.not_eq_true'] at h2
      exact .inl ⟨rfl, h2.2, .inr h2.1⟩
    · rw [if_neg h2]
      refine .inr ⟨rfl, fun hp => ?_⟩
      simpa [hp] using h1

def placeN (O : Oracle γ) (pie : Bool) : (rest : List Nat) → (j k : Nat) → List FLine → γ → List FLine × γ
  | _, _, 0, new, g => (new, g)
  | [], _, _+1, new, g => (new, g)
  | l :: rest, j, k+1, new, g =>
    placeN O pie rest (j+1) k
      (new ++ [{ tok := l, res := if rest.isEmpty then none else some (j+1), pos := (O.place g pie rest.isEmpty).2 }])
      (O.place g pie rest.isEmpty).1

structure LineStop (O : Oracle γ) (st : St) (pie : Bool) (rest : List Nat) (j : Nat) (new : List FLine) (g : γ)
    (k : Nat) (l : Nat) (rest' : List Nat) : Prop where
  split : rest.drop k = l :: rest'
  guard : ((placeN O pie rest j k new g).1 ≠ [] ∨ pie = false)
  over : O.lineOver (placeN O pie rest j k new g).2 rest'.isEmpty = true

theorem layLines_eq (O : Oracle γ) (st : St) (pie : Bool) :
    ∀ (rest : List Nat) (j : Nat) (new : List FLine) (g : γ),
      ∃ k, (k = rest.length ∧ layLines O st pie rest j new g =
            { abort := false, stop := false, new := (placeN O pie rest j k new g).1,
              g := (placeN O pie rest j k new g).2 }) ∨
        (∃ l rest', LineStop O st pie rest j new g k l rest' ∧ layLines O st pie rest j new g =
            breakOut st pie (placeN O pie rest j k new g).1 (placeN O pie rest j k new g).2 rest'.length)
  | [], j, new, g => ⟨0, .inl ⟨rfl, by rw [layLines]; rfl⟩⟩
  | l :: rest, j, new, g => by
    rw [layLines]
    dsimp only
    by_cases hov : ((!new.isEmpty || !pie) && O.lineOver g rest.isEmpty) = true
    · -- the branch taken is `breakLine`, that is `breakOut`, by unfolding
      rw [if_pos hov]
      simp only [Bool.and_eq_true, Bool.or_eq_true, Bool.not_eq_true'] at hov
      refine ⟨0, .inr ⟨l, rest, ⟨rfl, hov.1.imp_left (fun h hn => ?_), hov.2⟩, rfl⟩⟩
      rw [show (placeN O pie (l :: rest) j 0 new g).1 = new from rfl] at hn
      simp [hn] at h
    · rw [if_neg hov]
      obtain ⟨k, h⟩ := layLines_eq O st pie rest (j+1)
        (new ++ [{ tok := l, res := if rest.isEmpty then none else some (j+1), pos := (O.place g pie rest.isEmpty).2 }])
        (O.place g pie rest.isEmpty).1
      exact ⟨k+1, h.imp (fun ⟨hk, e⟩ => ⟨congrArg (· + 1) hk, e⟩)
        (fun ⟨l', rest', ⟨a, b, c⟩, e⟩ => ⟨l', rest', ⟨a, b, c⟩, e⟩)⟩

theorem ebCons_eq_some {index : Nat} {c : Box} {cf : Frag} {cfEb : EB Frag} {fs : Frags} {fsEb : EB Frags}
    {fs' : Frags} {rs : RS} (h : ebCons index c cf cfEb fs fsEb = some (fs', rs)) :
    (∃ fs2, fsEb = some (fs2, rs) ∧ fs' = .cons index c cf fs2) ∨
    (∃ i2 c2, fs.headIdxSrc = some (i2, c2) ∧ rs = .at i2 .start ∧ fs' = .cons index c cf .nil) ∨
    (∃ cf' r, cfEb = some (cf', r) ∧ rs = .at index r ∧ fs' = .cons index c cf' .nil) := by
  have inside : ebInside index c cf cfEb = some (fs', rs) →
      ∃ cf' r, cfEb = some (cf', r) ∧ rs = .at index r ∧ fs' = .cons index c cf' .nil := by
    intro hin
    unfold ebInside at hin
    split at hin
    · split at hin
      · simp only [Option.some.injEq, Prod.mk.injEq] at hin
        exact ⟨_, _, rfl, hin.2.symm, hin.1.symm⟩
      · cases hin
    · cases hin
  unfold ebCons at h
  split at h
  · simp only [Option.some.injEq, Prod.mk.injEq] at h
    exact .inl ⟨_, by rw [h.2], h.1.symm⟩
  · unfold ebHere at h
    split at h
    · split at h
      · simp only [Option.some.injEq, Prod.mk.injEq] at h
        exact .inr (.inl ⟨_, _, by assumption, h.2.symm, h.1.symm⟩)
      · exact .inr (.inr (inside h))
    · exact .inr (.inr (inside h))

theorem attempt_ok {O : Oracle γ} {lay : γ → BOut γ} {g : γ} {pie' : Bool} {br : BRes γ}
    (h : attempt O lay g pie' = .ok br) : ∃ g', lay g' = .ok br := by
  unfold attempt at h
  split at h
  · cases h
  · rename_i br1 hb1
    -- the result is that of the first layout or of the second
    have first : BOut.ok br1 = .ok br → ∃ g', lay g' = .ok br := fun e => ⟨g, e ▸ hb1⟩
    split at h
    · exact first h
    · split at h
      · cases h
      · split at h
        · exact ⟨_, h⟩
        · exact first h

theorem attempt_true (O : Oracle γ) (lay : γ → BOut γ) (g : γ) : attempt O lay g true = lay g := by
  unfold attempt
  split
  · simp [*]
  · simp [*]

theorem failOut_cases (pb : Brk) (prev : Option Box) (index : Nat) (g : γ) (pgc : Nat) (nbF : NextPage) :
    (prev = none ∧ failOut pb prev index g pgc nbF = .abort pgc) ∨
    (∃ p, prev = some p ∧ (failOut pb prev index g pgc nbF = .need .nil index g nbF pgc ∨
      failOut pb prev index g pgc nbF = .ok .nil (some (.at index .start)) g none nbF)) := by
  unfold failOut
  cases prev with
  | none => exact .inl ⟨rfl, by split <;> rfl⟩
  | some p => exact .inr ⟨p, rfl, by split <;> simp⟩

/-- what `layBox` makes of the result of the child loop -/
def blockOut (O : Oracle γ) (st : St) (gE : γ) (pie : Bool) : KOut γ → BOut γ
  | .abort pg => .abort { pg }
  | .need fs fail g' nbF pgc =>
    if !pie then .abort { pg := pgc } else finishBlock O st gE pie fs (some (.at fail .start)) g' none nbF
  | .ok fs r g' eb nb => finishBlock O st gE pie fs r g' eb nb

theorem layBox_block (O : Oracle γ) (st : St) (ks : Boxes) (s : RS) (g : γ) (pie : Bool) :
    layBox O (.block st ks) s g pie =
      blockOut O st g pie (layKids O ks 0 (startIdx s) (startSub s) none (O.enter st false s.isStart pie g) pie {}) := by
  rw [layBox]
  cases layKids O ks 0 (startIdx s) (startSub s) none (O.enter st false s.isStart pie g) pie {} <;> rfl

/-- a `need` nobody answered (empty page) counts as a stop before the failing child -/
theorem blockOut_ok {O : Oracle γ} {st : St} {gE : γ} {pie : Bool} {out : KOut γ} {br : BRes γ}
    (h : blockOut O st gE pie out = .ok br) :
    ∃ fs r eb, br.frag = .block st fs ∧ br.resume = r ∧ br.eb = eb.map (fun p => (.block st p.1, p.2)) ∧
      ((∃ g nb, out = .ok fs r g eb nb) ∨
       (∃ fl g nb pgc, out = .need fs fl g nb pgc ∧ r = some (.at fl .start) ∧ eb = none)) := by
  have fin : ∀ {fs r g' eb nb}, finishBlock O st gE pie fs r g' eb nb = .ok br →
      br.frag = .block st fs ∧ br.resume = r ∧ br.eb = eb.map (fun p => (.block st p.1, p.2)) := by
    intro fs r g' eb nb hf
    unfold finishBlock at hf
    split at hf
    · cases hf
    · cases hf
      cases eb <;> exact ⟨rfl, rfl, rfl⟩
  cases out with
  | abort pg => cases h
  | need fs fl g' nbF pgc =>
    simp only [blockOut] at h
    split at h
    · cases h
    · exact ⟨fs, _, none, (fin h).1, (fin h).2.1, (fin h).2.2, .inr ⟨fl, g', nbF, pgc, rfl, rfl, rfl⟩⟩
  | ok fs r g' eb nb => exact ⟨fs, r, eb, (fin h).1, (fin h).2.1, (fin h).2.2, .inl ⟨g', nb, rfl⟩⟩

/-- the child loop's result when child `c` was laid out completely (`br`) and the following children gave `out` -/
def consOut (index : Nat) (c : Box) (br : BRes γ) : KOut γ → KOut γ
  | .abort pg => .abort pg
  | .ok fs r2 g2 eb nb2 => .ok (.cons index c br.frag fs) r2 g2 (ebCons index c br.frag br.eb fs eb) nb2
  | .need fs fl g2 nbF pgc =>
    match ebCons index c br.frag br.eb fs none with
    | some (fs', rs) => .ok fs' (some rs) g2 none nbF
    | none => .need (.cons index c br.frag fs) fl g2 nbF pgc

/-! `MB b s pie out`: what is to hold of a result `out` of `layBox O b s _ pie`; `MK` likewise for `layKids`.
  The cases are the ways a result comes about; the child is laid out from `if index = i0 then sub else start`
  with `pageIsEmpty = pie && prev.isNone`. -/

structure LayCases (O : Oracle γ) (MB : Box → RS → Bool → BOut γ → Prop)
    (MK : Boxes → Nat → Nat → RS → Option Box → Bool → KOut γ → Prop) : Prop where
  para : ∀ st ls s g pie, MB (.para st ls) s pie (layBox O (.para st ls) s g pie)
  block : ∀ st ks s gE pie out, MK ks 0 (startIdx s) (startSub s) none pie out →
    MB (.block st ks) s pie (blockOut O st gE pie out)
  nil : ∀ index i0 sub prev g pie nb, MK .nil index i0 sub prev pie (.ok .nil none g none nb)
  skip : ∀ c ks index i0 sub prev pie out, index < i0 → MK ks (index+1) i0 sub prev pie out →
    MK (.cons c ks) index i0 sub prev pie out
  /-- the loop stops before the child: forced break, change of page name, or the child could not be placed -/
  stop : ∀ c ks index i0 sub p g pie nb, ¬ index < i0 →
    MK (.cons c ks) index i0 sub (some p) pie (.ok .nil (some (.at index .start)) g none nb)
  /-- the child could not be placed and the break before it is to be avoided -/
  need : ∀ c ks index i0 sub p g pie nb pgc, ¬ index < i0 →
    MK (.cons c ks) index i0 sub (some p) pie (.need .nil index g nb pgc)
  /-- the first child could not be placed; on an empty page only because its own layout was cancelled -/
  cancel : ∀ c ks index i0 sub pie nbA pgc, ¬ index < i0 →
    (pie = true → MB c (if index = i0 then sub else .start) true (.abort nbA)) →
    MK (.cons c ks) index i0 sub none pie (.abort pgc)
  part : ∀ c ks index i0 sub prev g pie br r', ¬ index < i0 →
    MB c (if index = i0 then sub else .start) (pie && prev.isNone) (.ok br) → br.resume = some r' →
    MK (.cons c ks) index i0 sub prev pie (.ok (.cons index c br.frag .nil) (some (.at index r')) g none br.nb)
  cons : ∀ c ks index i0 sub prev pie br out, ¬ index < i0 →
    MB c (if index = i0 then sub else .start) (pie && prev.isNone) (.ok br) → br.resume = none →
    MK ks (index+1) i0 sub (some c) pie out → MK (.cons c ks) index i0 sub prev pie (consOut index c br out)

section induct

variable {O : Oracle γ} {MB : Box → RS → Bool → BOut γ → Prop}
  {MK : Boxes → Nat → Nat → RS → Option Box → Bool → KOut γ → Prop}

mutual
theorem layBox_induct (h : LayCases O MB MK) : ∀ (b : Box) (s : RS) (g : γ) (pie : Bool),
    MB b s pie (layBox O b s g pie)
  | .para st ls, s, g, pie => h.para st ls s g pie
  | .block st ks, s, g, pie => by
    rw [layBox_block]
    exact h.block st ks s g pie _ (layKids_induct h ks 0 _ _ none _ pie {})
theorem layKids_induct (h : LayCases O MB MK) : ∀ (ks : Boxes) (index i0 : Nat) (sub : RS) (prev : Option Box)
    (g : γ) (pie : Bool) (nb : NextPage), MK ks index i0 sub prev pie (layKids O ks index i0 sub prev g pie nb)
  | .nil, index, i0, sub, prev, g, pie, nb => by
    rw [layKids]
    exact h.nil index i0 sub prev g pie nb
  | .cons c ks, index, i0, sub, prev, g, pie, nb => by
    rw [layKids]
    by_cases hlt : index < i0
    · rw [if_pos hlt]
      exact h.skip c ks index i0 sub prev pie _ hlt (layKids_induct h ks (index+1) i0 sub prev g pie nb)
    · rw [if_neg hlt]
      dsimp only
      split
      · cases prev with
        | none => contradiction
        | some p => exact h.stop c ks index i0 sub p g pie _ hlt
      · generalize hatt : attempt O _ g _ = att
        cases att with
        | abort nbA =>
          dsimp only
          rcases failOut_cases (pbOf prev c) prev index g c.pgStart nbA with ⟨rfl, e⟩ | ⟨p, rfl, e | e⟩
          · rw [e]
            refine h.cancel c ks index i0 sub pie nbA _ hlt (fun hp => ?_)
            subst hp
            rw [Option.isNone_none, Bool.and_true, attempt_true] at hatt
            exact hatt ▸ layBox_induct h c _ g true
          · rw [e]
            exact h.need c ks index i0 sub p g pie nbA _ hlt
          · rw [e]
            exact h.stop c ks index i0 sub p g pie nbA hlt
        | ok br =>
          obtain ⟨g', hg'⟩ := attempt_ok hatt
          have hB := layBox_induct h c (if index = i0 then sub else .start) g' (pie && prev.isNone)
          rw [hg'] at hB
          dsimp only
          cases hres : br.resume with
          | some r' => exact h.part c ks index i0 sub prev _ pie br r' hlt hB hres
          | none =>
            exact h.cons c ks index i0 sub prev pie br _ hlt hB hres
              (layKids_induct h ks (index+1) i0 sub (some c) (O.afterKid g br.g) pie br.nb)
end

end induct

theorem layLines_pie_no_abort (O : Oracle γ) (st : St) (rest : List Nat) (j : Nat) (new : List FLine) (g : γ) :
    (layLines O st true rest j new g).abort = false := by
  obtain ⟨k, ⟨_, e⟩ | ⟨l, rest', _, e⟩⟩ := layLines_eq O st true rest j new g
  · rw [e]
  · rcases breakOut_cases st true (placeN O true rest j k new g).1 (placeN O true rest j k new g).2 rest'.length
      with ⟨_, h, _⟩ | ⟨eb, _⟩
    · cases h
    · rw [e, eb]

theorem pie_ok_cases (O : Oracle γ) :
    LayCases O (fun _ _ pie out => pie = true → ∀ nb, out ≠ .abort nb)
      (fun _ _ _ _ _ pie out => pie = true → ∀ pg, out ≠ .abort pg) where
  para st ls s g pie hp nb := by
    subst hp
    rw [layBox]
    dsimp only
    simp only [layLines_pie_no_abort, Bool.false_eq_true, if_false, Bool.not_true, Bool.and_false]
    split <;> simp
  block st ks s gE pie out ih hp nb := by
    subst hp
    cases out with
    | abort pg => exact absurd rfl (ih rfl pg)
    | need fs fl g' nbF pgc => simp [blockOut, finishBlock]
    | ok fs r g' eb nb2 => simp [blockOut, finishBlock]
  nil := by simp
  skip _ _ _ _ _ _ _ _ _ ih := ih
  stop := by simp
  need := by simp
  cancel _ _ _ _ _ _ nbA _ _ hc hp := absurd rfl (hc hp rfl nbA)
  part := by simp
  cons c ks index i0 sub prev pie br out _ _ _ ih hp pg := by
    cases out with
    | abort pg' => exact absurd rfl (ih hp pg')
    | ok fs r2 g2 eb nb2 => simp [consOut]
    | need fs fl g2 nbF pgc =>
      simp only [consOut]
      split <;> simp

theorem layBox_pie_ok (O : Oracle γ) (b : Box) (s : RS) (g : γ) (nb : NextPage) : layBox O b s g true ≠ .abort nb :=
  layBox_induct (pie_ok_cases O) b s g true rfl nb

theorem layKids_pie_ok (O : Oracle γ) : ∀ (ks : Boxes) (index i0 : Nat) (sub : RS) (prev : Option Box) (g : γ)
    (nb : NextPage) (pg : Nat), layKids O ks index i0 sub prev g true nb ≠ .abort pg :=
  fun ks index i0 sub prev g nb pg => layKids_induct (pie_ok_cases O) ks index i0 sub prev g true nb rfl pg

/-- the page loop never reaches the branch where Go panics with "expected non nil box for the root element" -/
theorem pagesLoop_no_root_abort (P : PageInfo → Oracle γ × γ) (root : Box) (info : PageInfo) (s : RS) (nb : NextPage) :
    layBox (P info).1 root s (P info).2 true ≠ .abort nb :=
  layBox_pie_ok _ root s _ nb

/-- the branch of the loop where the root is cancelled is no case: `pagesLoop_no_root_abort` -/
theorem pagesLoop_induct (P : PageInfo → Oracle γ × γ) (ltr : Bool) (root : Box)
    {M : Nat → Nat → PState → PagesRes → Prop}
    (zero : ∀ index s, M 0 index s { pages := [], done := false })
    (blank : ∀ fuel index s r, (pageInfo ltr index s).blank = true →
      M fuel (index+1) { s with right := !s.right } r →
      M (fuel+1) index s { r with pages := { info := pageInfo ltr index s, frag := none } :: r.pages })
    (last : ∀ fuel index s br, (pageInfo ltr index s).blank = false →
      layBox (P (pageInfo ltr index s)).1 root s.resume (P (pageInfo ltr index s)).2 true = .ok br →
      br.resume = none →
      M (fuel+1) index s { pages := [{ info := pageInfo ltr index s, frag := some br.frag }], done := true })
    (more : ∀ fuel index s br r' r, (pageInfo ltr index s).blank = false →
      layBox (P (pageInfo ltr index s)).1 root s.resume (P (pageInfo ltr index s)).2 true = .ok br →
      br.resume = some r' → M fuel (index+1) { resume := r', nb := br.nb, right := !s.right } r →
      M (fuel+1) index s { r with pages := { info := pageInfo ltr index s, frag := some br.frag } :: r.pages }) :
    ∀ fuel index s, M fuel index s (pagesLoop P ltr root fuel index s)
  | 0, index, s => zero index s
  | fuel+1, index, s => by
    rw [pagesLoop]
    dsimp only
    by_cases hb : (pageInfo ltr index s).blank = true
    · rw [if_pos hb]
      exact blank fuel index s _ hb (pagesLoop_induct P ltr root zero blank last more fuel _ _)
    · rw [if_neg hb]
      have hb' : (pageInfo ltr index s).blank = false := by simpa using hb
      cases hl : layBox (P (pageInfo ltr index s)).1 root s.resume (P (pageInfo ltr index s)).2 true with
      | abort nb => exact absurd hl (pagesLoop_no_root_abort P root _ _ nb)
      | ok br =>
        dsimp only
        cases hr : br.resume with
        | none => exact last fuel index s br hb' hl hr
        | some r' => exact more fuel index s br r' _ hb' hl hr (pagesLoop_induct P ltr root zero blank last more fuel _ _)

def NoBB : List Page → Prop
  | p :: q :: rest => ¬ (p.info.blank = true ∧ q.info.blank = true) ∧ NoBB (q :: rest)
  | _ => True

/-- a blank page flips the side and keeps the pending break, so the side asked for is the next page's -/
theorem blank_then_not_blank (ltr : Bool) (index : Nat) (s : PState) (hb : (pageInfo ltr index s).blank = true) :
    (pageInfo ltr (index+1) { s with right := !s.right }).blank = false := by
  unfold pageInfo at hb ⊢
  dsimp only at hb ⊢
  cases hs : sideOf ltr s.nb.brk with
  | none => simp [hs] at hb
  | some w =>
    rw [hs] at hb
    dsimp only at hb ⊢
    cases w <;> cases hr : s.right <;> simp [hr] at hb ⊢

theorem pagesLoop_noBB_head (P : PageInfo → Oracle γ × γ) (ltr : Bool) (root : Box) (fuel index : Nat) (s : PState) :
    NoBB (pagesLoop P ltr root fuel index s).pages ∧
    ∀ p ∈ (pagesLoop P ltr root fuel index s).pages.head?, p.info = pageInfo ltr index s := by
  refine pagesLoop_induct P ltr root
    (M := fun _ index s r => NoBB r.pages ∧ ∀ p ∈ r.pages.head?, p.info = pageInfo ltr index s)
    (by simp [NoBB]) ?_ (by simp [NoBB]) ?_ fuel index s
  · intro fuel index s r hb ⟨ih, hd⟩
    refine ⟨?_, by simp⟩
    cases hp : r.pages with
    | nil => simp [NoBB]
    | cons q rest =>
      rw [hp] at ih hd
      exact ⟨by simp [hd q (by simp), blank_then_not_blank ltr index s hb], ih⟩
  · intro fuel index s br r' r hb _ _ ⟨ih, _⟩
    refine ⟨?_, by simp⟩
    cases hp : r.pages with
    | nil => simp [NoBB]
    | cons q rest => exact ⟨by simp [hb], hp ▸ ih⟩

end WR.C02
