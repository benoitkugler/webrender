/-
  C02 / C12 — why a page ends where it ends (class-F model, every oracle): a paragraph's fragment ends only
  because the oracle says the next line does not fit, and lines are taken back only for widows; the child loop
  stops before a child only at a forced break / change of page name or after a failed attempt; the
  earlier-break candidate of a complete result IS `findEarlierPageBreak` on the fragments built so far, and an
  `avoid` is given up only when that search finds nothing.
-/
import WR.C02.Lemmas
namespace WR.C02

variable {γ : Type}

theorem layLines_justified (O : Oracle γ) (st : St) (pie : Bool) :
    ∀ (rest : List Nat) (j : Nat) (new : List FLine) (g : γ),
      let r := layLines O st pie rest j new g
      (r.abort = false → r.stop = false → r.new = (placeN O pie rest j rest.length new g).1) ∧
      (r.stop = true → ∃ k l rest', LineStop O st pie rest j new g k l rest' ∧
          r.new = afterWidows st (placeN O pie rest j k new g).1 rest'.length) ∧
      (r.abort = true → ∃ k l rest', LineStop O st pie rest j new g k l rest' ∧ pie = false ∧
          ((placeN O pie rest j k new g).1.length < st.orph ∨
           (placeN O pie rest j k new g).1.length < widowsNeeded st rest'.length + st.orph))
  | rest, j, new, g => by
    dsimp only
    obtain ⟨k, ⟨hk, e⟩ | ⟨l, rest', hst, e⟩⟩ := layLines_eq O st pie rest j new g
    · rw [e, hk]
      exact ⟨fun _ _ => rfl, nofun, nofun⟩
    · rcases breakOut_cases st pie (placeN O pie rest j k new g).1 (placeN O pie rest j k new g).2 rest'.length
        with ⟨eb, hp, hor⟩ | ⟨eb, _⟩
      · rw [e, eb]
        exact ⟨nofun, nofun, fun _ => ⟨k, l, rest', hst, hp, hor⟩⟩
      · rw [e, eb]
        exact ⟨nofun, fun _ => ⟨k, l, rest', hst, rfl⟩, nofun⟩

/-- third case: Go's second layout, with the bottom space the padding / border need (`O.bump`) -/
theorem attempt_abort_iff (O : Oracle γ) (lay : γ → BOut γ) (g : γ) (pie' : Bool) (nb : NextPage) :
    attempt O lay g pie' = .abort nb ↔
      lay g = .abort nb ∨
      (∃ br, lay g = .ok br ∧ O.collThrough br.g = false ∧ pie' = false ∧ O.overC g br.g = true ∧ nb = br.nb) ∨
      (∃ br, lay g = .ok br ∧ O.collThrough br.g = false ∧ pie' = false ∧ O.overC g br.g = false ∧
          O.overB g br.g = true ∧ lay (O.bump g br.g) = .abort nb) := by
  unfold attempt
  cases hl : lay g with
  | abort nbA => simp
  | ok br =>
    simp only [reduceCtorEq, false_or, BOut.ok.injEq, exists_eq_left']
    -- the tests in the order `attempt` makes them
    split
    · simp [*]
    · cases pie'
      · simp only [Bool.not_false, Bool.true_and]
        split
        · simp [*, eq_comm (a := nb)]
        · split <;> simp [*]
      · simp

theorem stop_before_kid_justified (O : Oracle γ) (c p : Box) (ks : Boxes) (index i0 : Nat) (sub : RS) (g g' : γ)
    (pie : Bool) (nb nb' : NextPage) (hi : ¬ index < i0)
    (h : layKids O (.cons c ks) index i0 sub (some p) g pie nb = .ok .nil (some (.at index .start)) g' none nb') :
    ((between p c).isForce = true ∨ nameStop p c = true) ∨
    ((between p c).isAvoid = false ∧
      ∃ nbA, attempt O (fun g'' => layBox O c (if index = i0 then sub else RS.start) g'' false) g false = .abort nbA) := by
  rw [layKids, if_neg hi] at h
  simp only [pbOf, nsOf, Option.isSome_some, Bool.true_and, Option.isNone_some, Bool.and_false] at h
  split at h
  · rename_i hf
    exact .inl (by simpa using hf)
  · right
    split at h
    · -- the attempt failed: a stop, not a `need`, so the break is not to be avoided
      rename_i nbA ha
      unfold failOut at h
      split at h
      · cases h
      · rename_i hav
        exact ⟨by simpa using hav, nbA, ha⟩
    · -- the attempt succeeded: a fragment of the child is kept, also by a candidate of `ebCons`
      split at h
      · cases h
      · split at h
        · cases h
        · cases h
        · split at h
          · rename_i he
            cases h
            rcases ebCons_eq_some he with ⟨_, _, e⟩ | ⟨_, _, _, _, e⟩ | ⟨_, _, _, _, e⟩ <;> cases e
          · cases h

mutual
/-- `findEarlierPageBreak` on built fragments (Go searches the children already laid out on the page,
    last child first; the candidate kept is the last possible break) -/
def Frag.findEB : Frag → EB Frag
  | .para st lines => paraEb st lines
  | .block st kids =>
    match kids.findEB with
    | some (fs', rs) => some (.block st fs', rs)
    | none => none
def Frags.findEB : Frags → EB Frags
  | .nil => none
  | .cons i c f fs => ebCons i c f f.findEB fs fs.findEB
end

mutual
def Frag.hasBreak : Frag → Bool
  | .para st lines => decide (st.wid + st.orph ≤ lines.length ∧ 0 < st.wid ∧ st.wid < lines.length)
  | .block _ kids => kids.hasBreak
def Frags.hasBreak : Frags → Bool
  | .nil => false
  | .cons _ c f fs =>
    fs.hasBreak ||
    (match fs.headIdxSrc with
     | some (_, c2) => !(between c c2).isAvoid
     | none => false) ||
    (!f.st.bi.isAvoid && f.hasBreak)
end

theorem ebCons_isSome (i : Nat) (c : Box) (f : Frag) (fEb : EB Frag) (fs : Frags) (fsEb : EB Frags) :
    (ebCons i c f fEb fs fsEb).isSome =
      (fsEb.isSome ||
       (match fs.headIdxSrc with
        | some (_, c2) => !(between c c2).isAvoid
        | none => false) ||
       (!f.st.bi.isAvoid && fEb.isSome)) := by
  have hin : (ebInside i c f fEb).isSome = (!f.st.bi.isAvoid && fEb.isSome) := by
    unfold ebInside
    by_cases hb : (!f.st.bi.isAvoid) = true
    · rw [if_pos hb, hb]; cases fEb <;> simp
    · rw [if_neg hb]; simp at hb; simp [hb]
  unfold ebCons
  cases fsEb with
  | some q => simp
  | none =>
    simp only [Option.isSome_none, Bool.false_or]
    unfold ebHere
    cases hh : fs.headIdxSrc with
    | none => simp [hin]
    | some q =>
      obtain ⟨i2, c2⟩ := q
      dsimp only
      by_cases hb : (!(between c c2).isAvoid) = true
      · rw [if_pos hb]; simp [hb]
      · rw [if_neg hb, hin]; simp at hb; simp [hb]

mutual
theorem Frag.findEB_isSome : ∀ (f : Frag), f.findEB.isSome = f.hasBreak
  | .para st lines => by
    simp only [Frag.findEB, Frag.hasBreak, paraEb]
    by_cases h : st.wid + st.orph ≤ lines.length ∧ 0 < st.wid ∧ st.wid < lines.length
    · rw [if_pos h]; simp [h]
    · rw [if_neg h]; simp [h]
  | .block st kids => by
    have := Frags.findEB_isSome kids
    simp only [Frag.findEB, Frag.hasBreak]
    rw [← this]
    cases kids.findEB with
    | none => rfl
    | some q => rfl
theorem Frags.findEB_isSome : ∀ (fs : Frags), fs.findEB.isSome = fs.hasBreak
  | .nil => rfl
  | .cons i c f fs => by
    simp only [Frags.findEB, Frags.hasBreak, ebCons_isSome, Frag.findEB_isSome f, Frags.findEB_isSome fs]
end

def KEb : KOut γ → Prop
  | .abort _ => True
  | .ok fs r _ eb _ => r = none → eb = fs.findEB
  | .need fs _ _ _ _ => fs.findEB = none

theorem eb_cases (O : Oracle γ) :
    LayCases O (fun _ _ _ out => ∀ br, out = .ok br → br.resume = none → br.eb = br.frag.findEB)
      (fun _ _ _ _ _ _ out => KEb out) where
  para st ls s g pie br h hres := by
    obtain ⟨new, hf, ⟨_, _, _, _, hr⟩ | ⟨_, _, he⟩⟩ := layBox_para_ok h
    · rw [hr] at hres
      cases hres
    · rw [he, hf, Frag.findEB]
  block st ks s gE pie out ih br h hres := by
    obtain ⟨fs, r, eb, hf, hr, he, hout⟩ := blockOut_ok h
    rcases hout with ⟨g, nb, rfl⟩ | ⟨fl, g, nb, pgc, rfl, rfl, rfl⟩
    · rw [he, hf, Frag.findEB, ih (hr ▸ hres)]
      cases fs.findEB <;> rfl
    · rw [hres] at hr
      cases hr
  nil := by simp [KEb, Frags.findEB]
  skip _ _ _ _ _ _ _ _ _ ih := ih
  stop := by simp [KEb]
  need := by simp [KEb, Frags.findEB]
  cancel := by simp [KEb]
  part := by simp [KEb]
  cons c ks index i0 sub prev pie br out _ hbe hres ih := by
    have hbe := hbe br rfl hres
    cases out with
    | abort pg => trivial
    | ok fs r2 g2 eb nb2 =>
      intro hr2
      rw [Frags.findEB, ← hbe, ← ih hr2]
    | need fs fl g2 nbF pgc =>
      simp only [consOut]
      cases hebc : ebCons index c br.frag br.eb fs none with
      | some q => nofun
      | none =>
        show Frags.findEB (.cons index c br.frag fs) = none
        rw [Frags.findEB, ← hbe, show fs.findEB = none from ih]
        exact hebc

theorem layBox_eb (O : Oracle γ) (b : Box) (s : RS) (g : γ) (pie : Bool) (br : BRes γ)
    (h : layBox O b s g pie = .ok br) (hres : br.resume = none) : br.eb = br.frag.findEB :=
  layBox_induct (eb_cases O) b s g pie br h hres

theorem layKids_eb (O : Oracle γ) (ks : Boxes) (index i0 : Nat) (sub : RS) (prev : Option Box) (g : γ)
    (pie : Bool) (nb : NextPage) : KEb (layKids O ks index i0 sub prev g pie nb) :=
  layKids_induct (eb_cases O) ks index i0 sub prev g pie nb

end WR.C02
