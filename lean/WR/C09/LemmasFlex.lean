import WR.C09.LemmasBasic
/-
  C09 — FlexBoxes / GridBoxes: the children of flex and grid containers are blockified.
  The two passes are the same traversal (`KidsPass`) with a different rewrite of the children of the
  containers they look for; both rewrites are `ItemRewrite`s.  What is proved about them is proved
  once, over the traversal and the rewrite as variables.
-/
namespace WR.C09

/-- shape before the flex/grid passes: non-parent boxes have no children (the passes return them unchanged
    without looking below), and children of flex and grid containers are block-level or inline-level
    (the table pass has wrapped or dropped everything else) -/
def preFG (ty : Ty) (_ : Attrs) (kids : List Box) : Bool :=
  (isParent ty || kids.isEmpty) &&
  (!(isFlexContainer ty || isGridContainer ty) || kids.all (fun c => isBlockLevel c.ty || isInlineLevel c.ty))

/-- the flex/grid clause of `WF` at one box -/
def fgOK (ty : Ty) (_ : Attrs) (kids : List Box) : Bool := flexGridOK ty kids

/-- between the two passes: flex containers are already blockified, grid containers not yet -/
def midFG (ty : Ty) (_ : Attrs) (kids : List Box) : Bool :=
  (isParent ty || kids.isEmpty) &&
  (!isFlexContainer ty || kids.all (fun c => isBlockLevel c.ty)) &&
  (!isGridContainer ty || kids.all (fun c => isBlockLevel c.ty || isInlineLevel c.ty))

/-- what `flexKids` and `gridKids` have in common: every box returned comes from a child `c`, with other
    attributes `a'` that keep `running` and `tw`; a child that is not inline-level comes back as it is, an
    inline-level child inside an anonymous block that is no table wrapper -/
def ItemRewrite (f : List Box → List Box) : Prop :=
  ∀ ks x, x ∈ f ks → ∃ c ∈ ks, ∃ a' : Attrs, a'.running = c.a.running ∧ a'.tw = c.a.tw ∧
    ((isInlineLevel c.ty = false ∧ x = c.setA a') ∨
     (isInlineLevel c.ty = true ∧ ∃ wa : Attrs, wa.tw = false ∧ x = .mk .block wa [c.setA a'] []))

theorem exists_mem_cons_of {p : Box → Prop} {k : Box} {ks : List Box} (h : ∃ c ∈ ks, p c) : ∃ c ∈ k :: ks, p c :=
  h.elim fun c hc => ⟨c, List.mem_cons_of_mem _ hc.1, hc.2⟩

theorem flexKids_itemRewrite (pa : Attrs) : ItemRewrite (flexKids pa) := by
  intro ks
  induction ks with
  | nil => intro x hx; cases hx
  | cons k ks ih =>
    intro x hx
    obtain ⟨a', h1, h2, e⟩ : ∃ a' : Attrs, a'.running = k.a.running ∧ a'.tw = k.a.tw ∧
        (if !k.a.absPos then k.setA { k.a with fi := true } else k) = k.setA a' := by
      split
      · exact ⟨{ k.a with fi := true }, rfl, rfl, rfl⟩
      · exact ⟨k.a, rfl, rfl, (setA_self k).symm⟩
    rw [flexKids] at hx
    dsimp only at hx
    rw [e] at hx
    split at hx
    · exact exists_mem_cons_of (ih x hx)
    · split at hx
      · rename_i hi
        rcases List.mem_cons.mp hx with rfl | hx
        · exact ⟨k, List.mem_cons_self, a', h1, h2, Or.inr ⟨hi, _, rfl, rfl⟩⟩
        · exact exists_mem_cons_of (ih x hx)
      · rename_i hi
        rcases List.mem_cons.mp hx with rfl | hx
        · exact ⟨k, List.mem_cons_self, a', h1, h2, Or.inl ⟨Bool.eq_false_iff.mpr hi, rfl⟩⟩
        · exact exists_mem_cons_of (ih x hx)

theorem gridKids_itemRewrite : ItemRewrite gridKids := by
  intro ks
  induction ks with
  | nil => intro x hx; cases hx
  | cons k ks ih =>
    intro x hx
    rw [gridKids] at hx
    dsimp only at hx
    split at hx
    · exact exists_mem_cons_of (ih x hx)
    · split at hx
      · rename_i hi
        rcases List.mem_cons.mp hx with rfl | hx
        · exact ⟨k, List.mem_cons_self, { k.a with gi := false }, rfl, rfl, Or.inr ⟨hi, _, rfl, rfl⟩⟩
        · exact exists_mem_cons_of (ih x hx)
      · rename_i hi
        rcases List.mem_cons.mp hx with rfl | hx
        · refine ⟨k, List.mem_cons_self, ?_⟩
          split
          · exact ⟨{ k.a with gi := true }, rfl, rfl, Or.inl ⟨Bool.eq_false_iff.mpr hi, rfl⟩⟩
          · exact ⟨k.a, rfl, rfl, Or.inl ⟨Bool.eq_false_iff.mpr hi, (setA_self k).symm⟩⟩
        · exact exists_mem_cons_of (ih x hx)

theorem ItemRewrite.blockified {f : List Box → List Box} (hf : ItemRewrite f) (ks : List Box)
    (h : ∀ k ∈ ks, (isBlockLevel k.ty || isInlineLevel k.ty) = true) : ∀ c ∈ f ks, isBlockLevel c.ty = true := by
  intro x hx
  obtain ⟨c, hc, a', _, _, h' | h'⟩ := hf ks x hx
  · have := h c hc
    rw [h'.1, Bool.or_false] at this
    rw [h'.2]; exact this
  · obtain ⟨_, wa, _, rfl⟩ := h'; rfl

theorem fg_allN_setA (p : Ty → Attrs → List Box → Bool) (hp : ∀ ty a a' ks, p ty a ks = p ty a' ks) :
    ∀ (k : Box) (a' : Attrs), a'.running = k.a.running → allN p (k.setA a') = allN p k
  | .mk ty a kids cols, a', h => by
    have h : a'.running = a.running := h
    show allN p (.mk ty a' kids cols) = _
    rw [allN_mk, allN_mk, h, hp ty a' a kids]

/-- an item rewrite keeps `allN p` for every attribute-blind `p` that accepts an anonymous block with one
    child (the wrapper `gridKids` makes copies `running` from the child — QUIRK — which only makes
    `allN p wrapper` true outright) -/
theorem ItemRewrite.allN {f : List Box → List Box} (hf : ItemRewrite f) (p : Ty → Attrs → List Box → Bool)
    (hp : ∀ ty a a' ks, p ty a ks = p ty a' ks) (hb : ∀ a k, p .block a [k] = true) (ks : List Box)
    (h : allNList p ks = true) : allNList p (f ks) = true := by
  rw [allNList_iff] at h ⊢
  intro x hx
  obtain ⟨c, hc, a', h1, _, h' | h'⟩ := hf ks x hx
  · rw [h'.2, fg_allN_setA p hp c a' h1]; exact h c hc
  · obtain ⟨_, wa, _, rfl⟩ := h'
    rw [allN_mk, hb, allNList, allNList, fg_allN_setA p hp c a' h1, h c hc]
    exact Bool.or_true _

/-- `pass` leaves boxes that are not parents and running boxes alone, and otherwise rebuilds a box from its
    processed children, which it hands to `f` when the box is a container (`isC`) -/
def KidsPass (isC : Ty → Bool) (f : Attrs → List Box → List Box) (pass : Box → Box)
    (passList : List Box → List Box) : Prop :=
  (∀ ty a kids cols, pass (.mk ty a kids cols) =
    if (!isParent ty || a.running) = true then .mk ty a kids cols
    else .mk ty a (if isC ty = true then f a (passList kids) else passList kids) cols) ∧
  passList [] = [] ∧ ∀ k ks, passList (k :: ks) = pass k :: passList ks

theorem flexBoxes_kidsPass : KidsPass isFlexContainer flexKids flexBoxes flexBoxesList :=
  ⟨fun _ _ _ _ => by rw [flexBoxes], by rw [flexBoxesList], fun _ _ => by rw [flexBoxesList]⟩

theorem gridBoxes_kidsPass : KidsPass isGridContainer (fun _ => gridKids) gridBoxes gridBoxesList :=
  ⟨fun _ _ _ _ => by rw [gridBoxes], by rw [gridBoxesList], fun _ _ => by rw [gridBoxesList]⟩

section
variable {isC : Ty → Bool} {f : Attrs → List Box → List Box} {pass : Box → Box} {passList : List Box → List Box}

theorem KidsPass.ty (h : KidsPass isC f pass passList) : ∀ b : Box, (pass b).ty = b.ty ∧ (pass b).a = b.a
  | .mk ty a kids cols => by rw [h.1]; split <;> exact ⟨rfl, rfl⟩

theorem KidsPass.mem (h : KidsPass isC f pass passList) : ∀ (ks : List Box) (x : Box),
    x ∈ passList ks → ∃ k ∈ ks, x = pass k
  | [], x, hx => by rw [h.2.1] at hx; cases hx
  | k :: ks, x, hx => by
    rw [h.2.2] at hx
    rcases List.mem_cons.mp hx with rfl | hx
    · exact ⟨k, List.mem_cons_self, rfl⟩
    · obtain ⟨k', hk', e⟩ := h.mem ks x hx
      exact ⟨k', List.mem_cons_of_mem _ hk', e⟩

theorem KidsPass.tys (h : KidsPass isC f pass passList) (ks : List Box) (q : Ty → Bool)
    (hq : ∀ k ∈ ks, q k.ty = true) : ∀ k ∈ passList ks, q k.ty = true := by
  intro x hx
  obtain ⟨k, hk, rfl⟩ := h.mem ks x hx
  rw [(h.ty k).1]; exact hq k hk

/-- before: children of a container `isC` are block-level or inline-level; after: they are block-level.
    `D` / `r` carry the clause about the other kind of container along, which the pass does not touch. -/
def fgPre (isC D r : Ty → Bool) (ty : Ty) (_ : Attrs) (kids : List Box) : Bool :=
  (isParent ty || kids.isEmpty) &&
  (!isC ty || kids.all (fun c => isBlockLevel c.ty || isInlineLevel c.ty)) &&
  (!D ty || kids.all (fun c => r c.ty))

def fgPost (isC D r : Ty → Bool) (ty : Ty) (_ : Attrs) (kids : List Box) : Bool :=
  (isParent ty || kids.isEmpty) && (!isC ty || kids.all (fun c => isBlockLevel c.ty)) &&
  (!D ty || kids.all (fun c => r c.ty))

mutual
  theorem KidsPass.blockify (h : KidsPass isC f pass passList) (hf : ∀ a, ItemRewrite (f a)) (D r : Ty → Bool)
      (hD : ∀ ty, isC ty = true → D ty = false) (hb : isC .block = false ∧ D .block = false) :
      ∀ b : Box, allN (fgPre isC D r) b = true → allN (fgPost isC D r) (pass b) = true
    | .mk ty a kids cols, hb' => by
      rw [h.1]
      cases hr : a.running
      · obtain ⟨hloc, hk⟩ := allN_elim hr hb'
        simp only [fgPre, Bool.and_eq_true] at hloc
        obtain ⟨⟨hpar, hc⟩, hd⟩ := hloc
        have ihk := h.blockifyList hf D r hD hb kids hk
        cases hp : isParent ty
        · -- not a parent: no children
          rw [hp] at hpar
          have hnil : kids = [] := List.isEmpty_iff.mp hpar
          subst hnil
          show allN (fgPost isC D r) (.mk ty a [] cols) = true
          refine allN_intro ?_ (by rw [allNList])
          simp only [fgPost, List.all_nil, Bool.or_true, Bool.and_self, List.isEmpty_nil]
        · show allN (fgPost isC D r) (.mk ty a (if isC ty = true then f a (passList kids) else passList kids) cols) = true
          cases hC : isC ty
          · rw [if_neg Bool.false_ne_true]
            refine allN_intro ?_ ihk
            simp only [fgPost, hp, hC, Bool.true_or, Bool.not_false, Bool.true_and]
            cases hDt : D ty
            · rfl
            · rw [hDt] at hd
              exact List.all_eq_true.mpr (h.tys kids r (List.all_eq_true.mp hd))
          · rw [hC] at hc
            rw [if_pos rfl]
            refine allN_intro ?_ ((hf a).allN _ (fun _ _ _ _ => rfl) (fun a k => ?_) _ ihk)
            · simp only [fgPost, hp, hC, hD ty hC, Bool.true_or, Bool.not_true, Bool.false_or, Bool.not_false,
                Bool.true_and, Bool.and_true]
              exact List.all_eq_true.mpr ((hf a).blockified _
                (h.tys kids (fun t => isBlockLevel t || isInlineLevel t) (List.all_eq_true.mp hc)))
            · simp only [fgPost, hb.1, hb.2]; rfl
      · rw [Bool.or_true, if_pos rfl]; exact allN_running hr
  theorem KidsPass.blockifyList (h : KidsPass isC f pass passList) (hf : ∀ a, ItemRewrite (f a)) (D r : Ty → Bool)
      (hD : ∀ ty, isC ty = true → D ty = false) (hb : isC .block = false ∧ D .block = false) :
      ∀ ks : List Box, allNList (fgPre isC D r) ks = true → allNList (fgPost isC D r) (passList ks) = true
    | [], _ => by rw [h.2.1, allNList]
    | k :: ks, hks => by
      rw [allNList, Bool.and_eq_true] at hks
      rw [h.2.2, allNList, h.blockify hf D r hD hb k hks.1, h.blockifyList hf D r hD hb ks hks.2]; rfl
end

end

theorem flexBoxes_ty (b : Box) : (flexBoxes b).ty = b.ty ∧ (flexBoxes b).a = b.a := flexBoxes_kidsPass.ty b

theorem gridBoxes_ty (b : Box) : (gridBoxes b).ty = b.ty ∧ (gridBoxes b).a = b.a := gridBoxes_kidsPass.ty b

theorem fg_split (a b c : Bool) : (!(a || b) || c) = ((!a || c) && (!b || c)) := by
  cases a <;> cases b <;> cases c <;> rfl

theorem preFG_fgPre (ty : Ty) (a : Attrs) (ks : List Box) (h : preFG ty a ks = true) :
    fgPre isFlexContainer isGridContainer (fun t => isBlockLevel t || isInlineLevel t) ty a ks = true := by
  rw [preFG, fg_split, ← Bool.and_assoc] at h; exact h

theorem midFG_fgPre (ty : Ty) (a : Attrs) (ks : List Box) (h : midFG ty a ks = true) :
    fgPre isGridContainer isFlexContainer isBlockLevel ty a ks = true := by
  rw [midFG, Bool.and_right_comm] at h; exact h

theorem fgPost_fgOK (ty : Ty) (a : Attrs) (ks : List Box)
    (h : fgPost isGridContainer isFlexContainer isBlockLevel ty a ks = true) : fgOK ty a ks = true := by
  simp only [fgPost, Bool.and_eq_true] at h
  rw [fgOK, flexGridOK, fg_split, h.2, h.1.2]; rfl

theorem flexBoxes_mid (b : Box) (h : allN preFG b = true) : allN midFG (flexBoxes b) = true :=
  flexBoxes_kidsPass.blockify flexKids_itemRewrite _ _ flex_not_grid ⟨rfl, rfl⟩ b (allN_mono _ _ preFG_fgPre b h)

theorem flexBoxesList_mid : ∀ ks : List Box, allNList preFG ks = true → allNList midFG (flexBoxesList ks) = true :=
  fun ks h => flexBoxes_kidsPass.blockifyList flexKids_itemRewrite _ _ flex_not_grid ⟨rfl, rfl⟩ ks
    (allNList_mono _ _ preFG_fgPre ks h)

theorem gridBoxes_fg (b : Box) (h : allN midFG b = true) : allN fgOK (gridBoxes b) = true :=
  allN_mono _ _ fgPost_fgOK _ (gridBoxes_kidsPass.blockify (fun _ => gridKids_itemRewrite) _ _ grid_not_flex
    ⟨rfl, rfl⟩ b (allN_mono _ _ midFG_fgPre b h))

theorem gridBoxesList_fg : ∀ ks : List Box, allNList midFG ks = true → allNList fgOK (gridBoxesList ks) = true :=
  fun ks h => allNList_mono _ _ fgPost_fgOK _ (gridBoxes_kidsPass.blockifyList (fun _ => gridKids_itemRewrite)
    _ _ grid_not_flex ⟨rfl, rfl⟩ ks (allNList_mono _ _ midFG_fgPre ks h))

theorem flexGrid_wf (b : Box) (h : allN preFG b = true) : allN fgOK (gridBoxes (flexBoxes b)) = true :=
  gridBoxes_fg _ (flexBoxes_mid b h)

/-! ### non-vacuity -/

def fgExample : Box :=
  .mk .block {} [
    .mk .flex { el := 8 } [
      .mk .text { el := 8, text := "x" } [] [],
      .mk .inline { el := 16 } [.mk .text { el := 16, text := "y" } [] []] [],
      .mk .block { el := 24 } [] []
    ] []
  ] []

example : allN preFG fgExample = true := by decide

example : allN fgOK (gridBoxes (flexBoxes fgExample)) = true := flexGrid_wf _ (by decide)

/-- after the two passes the flex box has exactly three children, all of type `.block` -/
example : ((gridBoxes (flexBoxes fgExample)).kids.map (fun f => (f.ty, f.kids.map Box.ty))) =
    [(.flex, [.block, .block, .block])] := by decide

end WR.C09
