import WR.C09.LemmasBasic
/-
  C09 — `inlineInBlock` never fails on a tree of shape `preIIB` and establishes the block-container clause,
  the line-box placement (`linesAlone`) and that no line box is running.  The second loop is described once,
  for arbitrary properties of the line under construction and of the output (`iibLoop_inv`).
-/
namespace WR.C09

theorem inlineInBlock_cases {ty : Ty} {a : Attrs} {kids cols : List Box} {b' : Box}
    (h : inlineInBlock (.mk ty a kids cols) = .ok b') :
    ((kids.isEmpty || a.running) = true ∧ b' = .mk ty a kids cols) ∨
    ((kids.isEmpty || a.running) = false ∧ ∃ ks, inlineInBlockList kids = .ok ks ∧
      ((isBlockContainer ty = false ∧ b' = .mk ty a ks cols) ∨
       (isBlockContainer ty = true ∧ ∃ r, iibLoop a ks [] [] = .ok r ∧ b' = .mk ty a r cols))) := by
  rw [inlineInBlock] at h
  cases hc : (kids.isEmpty || a.running) with
  | true =>
    rw [hc, if_pos rfl] at h
    exact Or.inl ⟨rfl, (Except.ok.inj h).symm⟩
  | false =>
    rw [hc, if_neg Bool.false_ne_true] at h
    obtain ⟨ks, hks, h⟩ := bind_ok_inv h
    refine Or.inr ⟨rfl, ks, hks, ?_⟩
    cases hbc : isBlockContainer ty with
    | false =>
      rw [hbc, Bool.not_false, if_pos rfl] at h
      exact Or.inl ⟨rfl, (Except.ok.inj h).symm⟩
    | true =>
      rw [hbc, Bool.not_true, if_neg Bool.false_ne_true] at h
      obtain ⟨r, hr, h⟩ := bind_ok_inv h
      exact Or.inr ⟨rfl, r, hr, (Except.ok.inj h).symm⟩

theorem inlineInBlockList_cons_cases {k : Box} {ks r : List Box} (h : inlineInBlockList (k :: ks) = .ok r) :
    ((k.ty == .text && k.a.text.isEmpty) = true ∧ inlineInBlockList ks = .ok r) ∨
    ((k.ty == .text && k.a.text.isEmpty) = false ∧
      ∃ k' ks', inlineInBlock k = .ok k' ∧ inlineInBlockList ks = .ok ks' ∧ r = k' :: ks') := by
  rw [inlineInBlockList] at h
  cases hc : (k.ty == .text && k.a.text.isEmpty) with
  | true => rw [hc, if_pos rfl] at h; exact Or.inl ⟨rfl, h⟩
  | false =>
    rw [hc, if_neg Bool.false_ne_true] at h
    obtain ⟨k', hk', h⟩ := bind_ok_inv h
    obtain ⟨ks', hks', h⟩ := bind_ok_inv h
    exact Or.inr ⟨rfl, k', ks', hk', hks', (Except.ok.inj h).symm⟩

/-- The second loop keeps a property `L` of the boxes collected in the current line and a property `O` of
    the boxes already put out: an inline-level or out-of-flow child can only join the line, a child that
    is not inline-level can only be put out, and a finished line is put out wrapped in an anonymous block.
    The result consists of `O` boxes, or it is the one line box holding everything. -/
theorem iibLoop_inv (pa : Attrs) (L O : Box → Prop)
    (hwrap : ∀ line, (∀ l ∈ line, L l) → O (anonBlock pa [lineBox pa line])) :
    ∀ (cs line out r : List Box),
      (∀ c ∈ cs, ((isInlineLevel c.ty || !inNormalFlow c.a) = true → L c) ∧ (isInlineLevel c.ty = false → O c)) →
      (∀ l ∈ line, L l) → (∀ o ∈ out, O o) → iibLoop pa cs line out = .ok r →
      (∀ o ∈ r, O o) ∨ ∃ line', r = [lineBox pa line'] ∧ ∀ l ∈ line', L l
  | [], line, out, r, _, hl, ho, he => by
    rw [iibLoop] at he
    cases hline : line.isEmpty with
    | true => rw [hline, if_pos rfl] at he; cases he; exact Or.inl ho
    | false =>
      rw [hline, if_neg Bool.false_ne_true] at he
      cases hout : out.isEmpty with
      | true =>
        rw [hout, Bool.not_true, if_neg Bool.false_ne_true] at he
        cases he; exact Or.inr ⟨line, rfl, hl⟩
      | false =>
        rw [hout, Bool.not_false, if_pos rfl] at he
        cases he
        exact Or.inl (List.forall_mem_append.2 ⟨ho, List.forall_mem_singleton.2 (hwrap line hl)⟩)
  | c :: cs, line, out, r, hc, hl, ho, he => by
    obtain ⟨⟨hcL, hcO⟩, hcs⟩ := List.forall_mem_cons.1 hc
    have hl' : (isInlineLevel c.ty || !inNormalFlow c.a) = true → ∀ l ∈ line ++ [c], L l :=
      fun hh => List.forall_mem_append.2 ⟨hl, List.forall_mem_singleton.2 (hcL hh)⟩
    rw [iibLoop] at he
    by_cases h0 : (c.ty == .line) = true
    · rw [if_pos h0] at he; exact nomatch he
    rw [if_neg h0] at he
    by_cases h1 : (!line.isEmpty && c.a.absPos) = true
    · rw [if_pos h1] at he
      refine iibLoop_inv pa L O hwrap cs _ _ r hcs (hl' ?_) ho he
      rw [inNormalFlow, (Bool.and_eq_true_iff.1 h1).2]; simp
    rw [if_neg h1] at he
    by_cases h2 : (isInlineLevel c.ty || (!line.isEmpty && !inNormalFlow c.a)) = true
    · rw [if_pos h2] at he
      have hh : (isInlineLevel c.ty || !inNormalFlow c.a) = true := by
        rcases Bool.or_eq_true_iff.1 h2 with h | h
        · rw [h]; rfl
        · rw [(Bool.and_eq_true_iff.1 h).2, Bool.or_true]
      by_cases h3 : (!line.isEmpty || !leadingSpace c) = true
      · rw [if_pos h3] at he; exact iibLoop_inv pa L O hwrap cs _ _ r hcs (hl' hh) ho he
      · rw [if_neg h3] at he; exact iibLoop_inv pa L O hwrap cs _ _ r hcs hl ho he
    rw [if_neg h2] at he
    have hni : isInlineLevel c.ty = false := by
      cases h : isInlineLevel c.ty with
      | false => rfl
      | true => rw [h] at h2; exact absurd rfl h2
    refine iibLoop_inv pa L O hwrap cs [] _ r hcs (fun _ h => nomatch h) ?_ he
    refine List.forall_mem_append.2 ⟨?_, List.forall_mem_singleton.2 (hcO hni)⟩
    by_cases h4 : (!line.isEmpty) = true
    · rw [if_pos h4]
      exact List.forall_mem_append.2 ⟨ho, List.forall_mem_singleton.2 (hwrap line hl)⟩
    · rw [if_neg h4]; exact ho

theorem iibLoop_total (pa : Attrs) : ∀ (cs line out : List Box), (∀ c ∈ cs, (c.ty == .line) = false) →
    ∃ r, iibLoop pa cs line out = .ok r
  | [], line, out, _ => by
    rw [iibLoop]
    cases line.isEmpty with
    | true => exact ⟨_, rfl⟩
    | false => cases out.isEmpty <;> exact ⟨_, rfl⟩
  | c :: cs, line, out, h => by
    obtain ⟨hc, hcs⟩ := List.forall_mem_cons.1 h
    rw [iibLoop, hc, if_neg Bool.false_ne_true]
    cases (!line.isEmpty && c.a.absPos) with
    | true => exact iibLoop_total pa cs _ _ hcs
    | false =>
      rw [if_neg Bool.false_ne_true]
      cases (isInlineLevel c.ty || (!line.isEmpty && !inNormalFlow c.a)) with
      | false => exact iibLoop_total pa cs _ _ hcs
      | true =>
        rw [if_pos rfl]
        cases (!line.isEmpty || !leadingSpace c) <;> exact iibLoop_total pa cs _ _ hcs

theorem singleLine_iff {ks : List Box} : singleLine ks = true ↔ ∃ l, ks = [l] ∧ (l.ty == .line) = true := by
  match ks with
  | [] | _ :: _ :: _ => simp [singleLine]
  | [l] => simp [singleLine]

/-- the three ways in which the block-container clause holds -/
theorem blockContainerOK_iff {ty : Ty} {ks : List Box} : blockContainerOK ty ks = true ↔
    isBlockContainer ty = false ∨ (∀ k ∈ ks, isBlockLevel k.ty = true) ∨
      ∃ l, ks = [l] ∧ (l.ty == .line) = true := by
  rw [blockContainerOK, Bool.or_eq_true, Bool.or_eq_true, Bool.not_eq_true', List.all_eq_true, singleLine_iff,
    or_assoc]

/-- a line box is never running (line boxes are anonymous boxes made by InlineInBlock) -/
def linesNotRunning (_ : Ty) (_ : Attrs) (kids : List Box) : Bool :=
  kids.all (fun c => !(c.ty == .line) || !c.a.running)

def IIBGood (b : Box) : Prop := allN bcOK b = true ∧ allN linesAlone b = true ∧ allN linesNotRunning b = true

theorem iibGood_mk (ty : Ty) (a : Attrs) (kids cols : List Box) (h1 : bcOK ty a kids = true)
    (h2 : linesAlone ty a kids = true) (h3 : linesNotRunning ty a kids = true) (hk : ∀ k ∈ kids, IIBGood k) :
    IIBGood (.mk ty a kids cols) :=
  ⟨allN_intro h1 (allNList_iff.2 fun k h => (hk k h).1), allN_intro h2 (allNList_iff.2 fun k h => (hk k h).2.1),
    allN_intro h3 (allNList_iff.2 fun k h => (hk k h).2.2)⟩

theorem noLine_ok (ty : Ty) (a : Attrs) {ks : List Box} (h : ∀ k ∈ ks, (k.ty == .line) = false) :
    linesAlone ty a ks = true ∧ linesNotRunning ty a ks = true := by
  constructor
  · rw [linesAlone, List.all_eq_true.2 fun k hk => by rw [h k hk]; rfl]; rfl
  · exact List.all_eq_true.2 fun k hk => by rw [h k hk]; rfl

theorem iibGood_lineBox (pa : Attrs) (line : List Box)
    (hl : ∀ l ∈ line, (l.ty == .line) = false ∧ IIBGood l) : IIBGood (lineBox pa line) :=
  iibGood_mk _ _ _ _ rfl (noLine_ok _ _ fun l h => (hl l h).1).1 (noLine_ok _ _ fun l h => (hl l h).1).2
    fun l h => (hl l h).2

theorem iibGood_anonBlock (pa : Attrs) (line : List Box)
    (hl : ∀ l ∈ line, (l.ty == .line) = false ∧ IIBGood l) :
    isBlockLevel (anonBlock pa [lineBox pa line]).ty = true ∧ IIBGood (anonBlock pa [lineBox pa line]) :=
  ⟨rfl, iibGood_mk _ _ _ _ rfl rfl rfl (List.forall_mem_singleton.2 (iibGood_lineBox pa line hl))⟩

theorem preIIB_kids {ty : Ty} {a : Attrs} {kids : List Box} (h : preIIB ty a kids = true) :
    (∀ k ∈ kids, (k.ty == .line) = false) ∧
    (isBlockContainer ty = true → ∀ k ∈ kids, isBlockLevel k.ty = true ∨ isInlineLevel k.ty = true) := by
  simp only [preIIB, Bool.and_eq_true, Bool.or_eq_true, List.all_eq_true] at h
  refine ⟨fun k hk => by simpa using h.1 k hk, fun hb k hk => ?_⟩
  rcases h.2 with h2 | h2
  · simp [hb] at h2
  · exact h2 k hk

theorem iibGood_result (ty : Ty) (a : Attrs) (r cols : List Box) (hb : isBlockContainer ty = true)
    (h : (∀ o ∈ r, isBlockLevel o.ty = true ∧ IIBGood o) ∨
      ∃ line, r = [lineBox a line] ∧ ∀ l ∈ line, (l.ty == .line) = false ∧ IIBGood l) :
    IIBGood (.mk ty a r cols) := by
  rcases h with h | ⟨line, rfl, hl⟩
  · have hn := noLine_ok ty a fun o ho => (blockLevel_not_inline (h o ho).1).1
    exact iibGood_mk _ _ _ _ (blockContainerOK_iff.2 (.inr (.inl fun o ho => (h o ho).1))) hn.1 hn.2
      fun o ho => (h o ho).2
  · refine iibGood_mk _ _ _ _ (blockContainerOK_iff.2 (.inr (.inr ⟨_, rfl, rfl⟩))) ?_ rfl
      (List.forall_mem_singleton.2 (iibGood_lineBox a line hl))
    simp [linesAlone, singleLine, lineBox_ty, hb]

mutual
  theorem inlineInBlock_wf_aux : ∀ (b : Box), allN preIIB b = true →
      ∃ b', inlineInBlock b = .ok b' ∧ b'.ty = b.ty ∧ b'.a = b.a ∧ IIBGood b'
    | .mk ty a kids cols, h => by
      rw [inlineInBlock]
      cases hr : a.running with
      | true => rw [Bool.or_true, if_pos rfl]; exact ⟨_, rfl, rfl, rfl, allN_running hr, allN_running hr, allN_running hr⟩
      | false =>
        obtain ⟨hp, hks⟩ := allN_elim hr h
        obtain ⟨hnl, hlev⟩ := preIIB_kids hp
        cases kids with
        | nil =>
          exact ⟨_, rfl, rfl, rfl, iibGood_mk _ _ _ _ (blockContainerOK_iff.2 (.inr (.inl fun _ h => nomatch h))) rfl rfl
            fun _ h => nomatch h⟩
        | cons k0 kt =>
          obtain ⟨ks', hok, hg, hpres⟩ := inlineInBlockList_wf_aux (k0 :: kt) hks
          have hnl' : ∀ c ∈ ks', (c.ty == .line) = false := fun c hc => by
            obtain ⟨k, hk, hty, _⟩ := hpres c hc
            rw [hty]; exact hnl k hk
          simp only [List.isEmpty_cons, Bool.false_or, Bool.false_eq_true, if_false, hok, bind, Except.bind]
          cases hb : isBlockContainer ty with
          | false =>
            rw [Bool.not_false, if_pos rfl]
            exact ⟨_, rfl, rfl, rfl, iibGood_mk _ _ _ _ (blockContainerOK_iff.2 (.inl hb))
              (noLine_ok _ _ hnl').1 (noLine_ok _ _ hnl').2 hg⟩
          | true =>
            rw [Bool.not_true, if_neg Bool.false_ne_true]
            obtain ⟨r, hr'⟩ := iibLoop_total a ks' [] [] hnl'
            have hres := iibLoop_inv a (fun l => (l.ty == .line) = false ∧ IIBGood l)
              (fun o => isBlockLevel o.ty = true ∧ IIBGood o) (iibGood_anonBlock a) ks' [] [] r
              (fun c hc => ⟨fun _ => ⟨hnl' c hc, hg c hc⟩, fun hni => by
                obtain ⟨k, hk, hty, _⟩ := hpres c hc
                rcases hlev hb k hk with hl | hl
                · exact ⟨by rw [hty]; exact hl, hg c hc⟩
                · rw [hty, hl] at hni; cases hni⟩)
              (fun _ h => nomatch h) (fun _ h => nomatch h) hr'
            rw [hr']
            exact ⟨_, rfl, rfl, rfl, iibGood_result ty a r cols hb hres⟩
  theorem inlineInBlockList_wf_aux : ∀ (ks : List Box), allNList preIIB ks = true →
      ∃ ks', inlineInBlockList ks = .ok ks' ∧ (∀ k' ∈ ks', IIBGood k') ∧
        (∀ k' ∈ ks', ∃ k ∈ ks, k'.ty = k.ty ∧ k'.a = k.a)
    | [], _ => by
      rw [inlineInBlockList]
      exact ⟨[], rfl, (fun _ h => nomatch h), fun _ h => nomatch h⟩
    | k :: ks, h => by
      rw [allNList, Bool.and_eq_true] at h
      obtain ⟨ks', hok, hg, hpres⟩ := inlineInBlockList_wf_aux ks h.2
      have hpres' : ∀ k' ∈ ks', ∃ k1 ∈ k :: ks, k'.ty = k1.ty ∧ k'.a = k1.a := fun k' hk' => by
        obtain ⟨k1, hk1, h1⟩ := hpres k' hk'
        exact ⟨k1, List.mem_cons_of_mem _ hk1, h1⟩
      rw [inlineInBlockList]
      split
      · exact ⟨ks', hok, hg, hpres'⟩
      · obtain ⟨k', hok', hty, ha, hgk⟩ := inlineInBlock_wf_aux k h.1
        simp only [hok', hok, bind, Except.bind, pure, Except.pure]
        exact ⟨_, rfl, List.forall_mem_cons.2 ⟨hgk, hg⟩,
          List.forall_mem_cons.2 ⟨⟨k, List.mem_cons_self .., hty, ha⟩, hpres'⟩⟩
end

theorem inlineInBlock_wf (b : Box) (h : allN preIIB b = true) :
    ∃ b', inlineInBlock b = .ok b' ∧ b'.ty = b.ty ∧ b'.a = b.a ∧
      allN bcOK b' = true ∧ allN linesAlone b' = true := by
  obtain ⟨b', h1, h2, h3, h4, h5, _⟩ := inlineInBlock_wf_aux b h
  exact ⟨b', h1, h2, h3, h4, h5⟩

theorem inlineInBlockList_wf (ks : List Box) (h : allNList preIIB ks = true) :
    ∃ ks', inlineInBlockList ks = .ok ks' ∧ allNList bcOK ks' = true ∧ allNList linesAlone ks' = true ∧
      (∀ k' ∈ ks', ∃ k ∈ ks, k'.ty = k.ty ∧ k'.a = k.a) := by
  obtain ⟨ks', h1, hg, h2⟩ := inlineInBlockList_wf_aux ks h
  exact ⟨ks', h1, allNList_iff.2 fun k hk => (hg k hk).1, allNList_iff.2 fun k hk => (hg k hk).2.1, h2⟩

/-- a block holding text "a", a block with a text child, text "b" -/
def exIIB : Box :=
  .mk .block {} [
    .mk .text { text := "a" } [] [],
    .mk .block {} [.mk .text { text := "c" } [] []] [],
    .mk .text { text := "b" } [] []] []

example : allN preIIB exIIB = true := by decide

/-- the pass wraps the two text runs in anonymous blocks holding one line box each, and the inner
    block's text in a line box -/
example : ∃ b', inlineInBlock exIIB = .ok b' ∧ allN bcOK b' = true ∧ allN linesAlone b' = true ∧
    (b'.kids.map Box.ty) = [.block, .block, .block] ∧
    (b'.kids.map fun k => k.kids.map Box.ty) = [[.line], [.line], [.line]] :=
  ⟨_, rfl, by decide, by decide, by decide, by decide⟩

end WR.C09
