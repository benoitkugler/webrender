import WR.C09.LemmasGrid
/-
  C09 — the table fix-up pass (`tbc` / `wrapTable` / `anonTable`): it never fails with the driver's fuel, and
  the shape of its result at one box.  `tbc` is cut into four stages; each stage and each loop of `wrapTable`
  is analysed once with `okAnd`, so that the same analysis gives success together with a property of the
  result (here) and the property alone at every fuel (LemmasPostTable).
-/
namespace WR.C09

theorem isTable_plain {t : Ty} (h : isTable t = true) :
    rawTy t = true ∧ isParent t = true ∧ t ≠ .tableColumn ∧ t ≠ .tableRowGroup := by
  rcases isTable_cases t h with rfl | rfl <;> decide

theorem rule14_mem : ∀ (cs : List Box) (p : Option Box) (x : Box), x ∈ rule14 p cs → x ∈ cs := by
  intro cs
  induction cs with
  | nil => intro p x h; simp [rule14] at h
  | cons c rest ih =>
    intro p x h
    simp only [rule14] at h
    split at h
    · exact List.mem_cons_of_mem _ (ih _ _ h)
    · rcases List.mem_cons.mp h with h | h
      · subst h; exact List.mem_cons_self
      · exact List.mem_cons_of_mem _ (ih _ _ h)

theorem rule13_mem (cs : List Box) (x : Box) (h : x ∈ rule13 cs) : x ∈ cs := by
  have key : ∀ cs1 : List Box, (∀ y ∈ cs1, y ∈ cs) →
      x ∈ (match cs1 with
            | t :: i :: rest => if internalTableOrCaption i.ty && isWs t then i :: rest else cs1
            | _ => cs1) → x ∈ cs := by
    intro cs1 hs hx
    split at hx
    · split at hx
      · exact hs _ (List.mem_cons_of_mem _ hx)
      · exact hs _ hx
    · exact hs _ hx
  unfold rule13 at h
  apply key _ _ h
  intro y hy
  split at hy
  · split at hy
    · exact List.dropLast_subset _ hy
    · exact hy
  · exact hy

/-- `wrap` is only called on non-empty runs of children failing the test (`Q` holds of them);
    the result consists of passing children and wrappers (`P` holds of both). -/
theorem wrapGo_okAnd (E : Prop) (wrap : List Box → R Box) (flex : Bool) (test : Box → Bool) (Q P : Box → Prop)
    (hw : ∀ l, l ≠ [] → (∀ x ∈ l, Q x) → okAnd E P (wrap l)) :
    ∀ cs imp, (∀ x ∈ cs, test x = false → Q x) → (∀ x ∈ cs, test x = true → P x) →
      (∀ x ∈ imp, Q x) → okAnd E (fun r => ∀ x ∈ r, P x) (wrapGo wrap flex test cs imp) := by
  intro cs
  induction cs with
  | nil =>
    intro imp _ _ hq
    rw [wrapGo]
    cases imp with
    | nil => exact fun x hx => nomatch hx
    | cons i is =>
      refine okAnd_bind (hw (i :: is) (List.cons_ne_nil _ _) hq) (fun w hw x hx => ?_)
      rw [List.mem_singleton.mp hx]; exact hw
  | cons c cs ih =>
    intro imp hf hp hq
    have hf' : ∀ x ∈ cs, test x = false → Q x := fun x hx => hf x (List.mem_cons_of_mem _ hx)
    have hp' : ∀ x ∈ cs, test x = true → P x := fun x hx => hp x (List.mem_cons_of_mem _ hx)
    rw [wrapGo]
    cases ht : test c
    · rw [if_neg Bool.false_ne_true]
      cases flex with
      | true => exact ih imp hf' hp' hq
      | false =>
        refine ih (imp ++ [c]) hf' hp' (fun x hx => ?_)
        rcases List.mem_append.mp hx with h | h
        · exact hq x h
        · rw [List.mem_singleton.mp h]; exact hf c List.mem_cons_self ht
    · rw [if_pos rfl]
      have hc : P c := hp c List.mem_cons_self ht
      refine okAnd_bind (ih [] hf' hp' (fun x hx => nomatch hx)) (fun rest hrest => ?_)
      cases imp with
      | nil => exact List.forall_mem_cons.mpr ⟨hc, hrest⟩
      | cons i is =>
        refine okAnd_bind (hw (i :: is) (List.cons_ne_nil _ _) hq) (fun w hw => ?_)
        exact List.forall_mem_cons.mpr ⟨hw, List.forall_mem_cons.mpr ⟨hc, hrest⟩⟩

theorem wrapGo_all_pass (wrap : List Box → R Box) (flex : Bool) (test : Box → Bool) :
    ∀ (cs : List Box), (∀ x ∈ cs, test x = true) → wrapGo wrap flex test cs [] = .ok cs := by
  intro cs
  induction cs with
  | nil => intro _; rfl
  | cons c cs ih =>
    intro h
    simp only [wrapGo]
    rw [if_pos (h c List.mem_cons_self), ih (fun x hx => h x (List.mem_cons_of_mem _ hx))]
    rfl

theorem groupsGo_mem : ∀ (gs out : List Box), groupsGo gs = .ok out → ∀ x ∈ out, ∃ g ∈ gs, groupGo g = .ok x := by
  intro gs
  induction gs with
  | nil => intro out h x hx; cases h; cases hx
  | cons g gs ih =>
    intro out h x hx
    rw [groupsGo] at h
    obtain ⟨g', hg', h⟩ := bind_ok_inv h
    obtain ⟨r, hr, h⟩ := bind_ok_inv h
    cases h
    rcases List.mem_cons.mp hx with rfl | hx
    · exact ⟨g, List.mem_cons_self, hg'⟩
    · obtain ⟨g0, hg0, e⟩ := ih r hr x hx
      exact ⟨g0, List.mem_cons_of_mem _ hg0, e⟩

theorem numberCols_mem : ∀ (cs : List Box) (gx : Nat), ∀ c' ∈ numberCols gx cs,
    ∃ c ∈ cs, ∃ n, c' = c.setA { c.a with gridX := n } := by
  intro cs
  induction cs with
  | nil => intro gx c' h; cases h
  | cons c cs ih =>
    intro gx c' h
    rw [numberCols] at h
    rcases List.mem_cons.mp h with rfl | h
    · exact ⟨c, List.mem_cons_self, _, rfl⟩
    · obtain ⟨d, hd, e⟩ := ih _ c' h
      exact ⟨d, List.mem_cons_of_mem _ hd, e⟩

theorem assignCols_mem : ∀ (gs : List Box) (gx : Nat), ∀ x ∈ assignCols gx gs,
    ∃ g ∈ gs, ∃ (n : Nat) (kids' : List Box), x = .mk g.ty { g.a with gridX := n } kids' g.cols ∧
      ∀ c' ∈ kids', ∃ c ∈ g.kids, ∃ m, c' = c.setA { c.a with gridX := m } := by
  intro gs
  induction gs with
  | nil => intro gx x hx; cases hx
  | cons g gs ih =>
    intro gx x hx
    have tl : x ∈ assignCols (gx + (if g.kids.length > 0 then g.kids.length else colGroupSpan g)) gs →
        ∃ g' ∈ g :: gs, ∃ (n : Nat) (kids' : List Box), x = .mk g'.ty { g'.a with gridX := n } kids' g'.cols ∧
          ∀ c' ∈ kids', ∃ c ∈ g'.kids, ∃ m, c' = c.setA { c.a with gridX := m } := fun h => by
      obtain ⟨g0, hg0, r⟩ := ih _ x h
      exact ⟨g0, List.mem_cons_of_mem _ hg0, r⟩
    simp only [assignCols] at hx
    split at hx
    · rename_i hpos
      rw [if_pos hpos] at tl
      rcases List.mem_cons.mp hx with rfl | hx
      · exact ⟨g, List.mem_cons_self, gx, numberCols gx g.kids, rfl, numberCols_mem g.kids gx⟩
      · exact tl hx
    · rename_i hpos
      rw [if_neg hpos] at tl
      rcases List.mem_cons.mp hx with rfl | hx
      · exact ⟨g, List.mem_cons_self, gx, g.kids, rfl, fun c hc => ⟨c, hc, c.a.gridX, by cases c; rfl⟩⟩
      · exact tl hx

theorem splitGroups_forall (P : Box → Prop) (hhd : ∀ g, P g → P (g.setA { g.a with hd := true }))
    (hft : ∀ g, P g → P (g.setA { g.a with ft := true })) :
    ∀ (gs : List Box) (h f : Option Box) (body : List Box),
    (∀ x ∈ gs, P x) → (∀ x ∈ h.toList, P x) → (∀ x ∈ f.toList, P x) → (∀ x ∈ body, P x) →
    ∀ x ∈ splitGroups gs h f body, P x := by
  intro gs
  induction gs with
  | nil =>
    intro h f body _ hh hf hb x hx
    simp only [splitGroups] at hx
    rcases List.mem_append.mp hx with hx | hx
    · rcases List.mem_append.mp hx with hx | hx
      · exact hh x hx
      · exact hb x hx
    · exact hf x hx
  | cons g gs ih =>
    intro h f body hgs hh hf hb x hx
    have hg : P g := hgs g List.mem_cons_self
    have h' : ∀ x ∈ gs, P x := fun x hx => hgs x (List.mem_cons_of_mem _ hx)
    simp only [splitGroups] at hx
    split at hx
    · refine ih _ _ _ h' (fun y hy => ?_) hf hb x hx
      rw [Option.mem_toList.mp hy |> Option.some.inj |>.symm]; exact hhd g hg
    · split at hx
      · refine ih _ _ _ h' hh (fun y hy => ?_) hb x hx
        rw [Option.mem_toList.mp hy |> Option.some.inj |>.symm]; exact hft g hg
      · refine ih _ _ _ h' hh hf (fun y hy => ?_) x hx
        rcases List.mem_append.mp hy with hy | hy
        · exact hb y hy
        · rw [List.mem_singleton.mp hy]; exact hg

/-- rules 1.1 / 1.2 -/
def tbPrep0 (box : Box) (children0 : List Box) : List Box :=
  if box.ty == .tableColumn then []
  else if box.ty == .tableColumnGroup then
    let nc := children0.filter (·.ty == .tableColumn)
    if nc.isEmpty then List.replicate (max (colGroupSpan box) 1) (anon .tableColumn box.a []) else nc
  else children0

/-- rules 1.1 – 1.4 -/
def tbPrep (box : Box) (children0 : List Box) : List Box :=
  let children := tbPrep0 box children0
  let children := if tabularContainer box.ty && children.length ≥ 2 then rule13 children else children
  rule14 none children

def tbSt1 (f : Nat) (box : Box) (children : List Box) : R (List Box) :=
  if isTable box.ty then
    wrapGo (fun imp => tbc f (anon .tableRow box.a []) imp) (isFlexContainer box.ty)
      (fun c => properTableChild c.ty) children []
  else if box.ty == .tableRowGroup then
    wrapGo (fun imp => tbc f (anon .tableRow box.a []) imp) (isFlexContainer box.ty)
      (·.ty == .tableRow) children []
  else pure children

def tbSt2 (f : Nat) (box : Box) (it : List Box) : R (List Box) :=
  if box.ty == .tableRow then
    wrapGo (fun imp => tbc f (anon .tableCell box.a []) imp) (isFlexContainer box.ty)
      (·.ty == .tableCell) it []
  else
    wrapGo (fun imp => tbc f (anon .tableRow box.a []) imp) (isFlexContainer box.ty)
      (fun c => !(c.ty == .tableCell)) it []

def tbSt3 (f : Nat) (box : Box) (it : List Box) : R (List Box) :=
  if box.ty == .inline then
    wrapGo (fun imp => tbc f (anon .inlineTable box.a []) imp) (isFlexContainer box.ty)
      (fun c => !properTableChild c.ty) it []
  else
    wrapGo (fun imp => tbc f (anon .table box.a []) imp) (isFlexContainer box.ty)
      (fun c => !properTableChild c.ty || isInProperParents box.ty c.ty) it []

def tbFin (f : Nat) (box : Box) (it : List Box) : R Box :=
  if isTable box.ty then wrapTable (tbc f) box it else pure (box.setKids it)

theorem tbc_succ (f : Nat) (box : Box) (c0 : List Box) :
    tbc (f + 1) box c0 =
      (tbSt1 f box (tbPrep box c0) >>= fun it => tbSt2 f box it >>= fun it =>
        tbSt3 f box it >>= fun it => tbFin f box it) := by
  -- `do` has moved the `if`s of `tbc` outside the binds
  rw [tbc]
  unfold tbSt1 tbSt2 tbSt3 tbFin
  simp only [ite_bind_R]
  rfl

theorem tbPrep_mem (box : Box) (c0 : List Box) (x : Box) (h : x ∈ tbPrep box c0) :
    x ∈ tbPrep0 box c0 := by
  unfold tbPrep at h
  have h := rule14_mem _ _ _ h
  split at h
  · exact rule13_mem _ _ h
  · exact h

theorem tbc_okAnd (E : Prop) (f : Nat) (box : Box) (c0 : List Box) (P1 P2 P3 : List Box → Prop) (PR : Box → Prop)
    (h1 : okAnd E P1 (tbSt1 f box (tbPrep box c0)))
    (h2 : ∀ it, P1 it → okAnd E P2 (tbSt2 f box it))
    (h3 : ∀ it, P2 it → okAnd E P3 (tbSt3 f box it))
    (h4 : ∀ it, P3 it → okAnd E PR (tbFin f box it)) :
    okAnd E PR (tbc (f + 1) box c0) := by
  rw [tbc_succ]
  exact okAnd_bind h1 fun it1 p1 => okAnd_bind (h2 it1 p1) fun it2 p2 => okAnd_bind (h3 it2 p2) h4

def TbRes (box r : Box) : Prop :=
  (isTable box.ty = false → r.ty = box.ty) ∧
  (isTable box.ty = true → (r.ty = .block ∨ r.ty = .inlineBlock) ∧ r.a.tw = true)

theorem tbFin_other (f : Nat) (box : Box) (it : List Box) (h : isTable box.ty = false) :
    tbFin f box it = .ok (box.setKids it) := by
  unfold tbFin; rw [h, if_neg Bool.false_ne_true]; rfl

theorem TbRes_setKids (box : Box) (it : List Box) (h : isTable box.ty = false) : TbRes box (box.setKids it) :=
  ⟨fun _ => rfl, fun h' => by rw [h] at h'; exact nomatch h'⟩

theorem byType_okAnd (E : Prop) : ∀ (cs : List Box), (∀ x ∈ cs, properTableChild x.ty = false → E) →
    okAnd E (fun r : List Box × List Box × List Box =>
      (∀ x ∈ r.1, x ∈ cs ∧ (x.ty = .tableColumn ∨ x.ty = .tableColumnGroup)) ∧
      (∀ x ∈ r.2.1, x ∈ cs ∧ (x.ty = .tableRow ∨ x.ty = .tableRowGroup)) ∧
      (∀ x ∈ r.2.2, x ∈ cs ∧ x.ty = .tableCaption)) (byType cs) := by
  intro cs
  induction cs with
  | nil => intro _; exact ⟨(fun x hx => nomatch hx), (fun x hx => nomatch hx), (fun x hx => nomatch hx)⟩
  | cons c cs ih =>
    intro hE
    rw [byType]
    refine okAnd_bind (ih fun x hx => hE x (List.mem_cons_of_mem _ hx)) ?_
    intro ⟨co, ro, ca⟩ ⟨i1, i2, i3⟩
    have m1 : ∀ x ∈ co, x ∈ c :: cs ∧ (x.ty = .tableColumn ∨ x.ty = .tableColumnGroup) :=
      fun x hx => ⟨List.mem_cons_of_mem _ (i1 x hx).1, (i1 x hx).2⟩
    have m2 : ∀ x ∈ ro, x ∈ c :: cs ∧ (x.ty = .tableRow ∨ x.ty = .tableRowGroup) :=
      fun x hx => ⟨List.mem_cons_of_mem _ (i2 x hx).1, (i2 x hx).2⟩
    have m3 : ∀ x ∈ ca, x ∈ c :: cs ∧ x.ty = .tableCaption :=
      fun x hx => ⟨List.mem_cons_of_mem _ (i3 x hx).1, (i3 x hx).2⟩
    dsimp only
    cases h1 : (c.ty == .tableColumn || c.ty == .tableColumnGroup)
    · rw [if_neg Bool.false_ne_true]
      cases h2 : (c.ty == .tableRow || c.ty == .tableRowGroup)
      · rw [if_neg Bool.false_ne_true]
        cases h3 : (c.ty == .tableCaption)
        · rw [if_neg Bool.false_ne_true]
          exact hE c List.mem_cons_self (properTableChild_unclassified c.ty h1 h2 h3)
        · rw [if_pos rfl]
          exact ⟨m1, m2, List.forall_mem_cons.mpr ⟨⟨List.mem_cons_self, beq_iff_eq.mp h3⟩, m3⟩⟩
      · rw [if_pos rfl]
        refine ⟨m1, List.forall_mem_cons.mpr ⟨⟨List.mem_cons_self, ?_⟩, m2⟩, m3⟩
        simpa using h2
    · rw [if_pos rfl]
      refine ⟨List.forall_mem_cons.mpr ⟨⟨List.mem_cons_self, ?_⟩, m1⟩, m2, m3⟩
      simpa using h1

def TbWrapOK (f : Nat) (t : Ty) (Q : Box → Prop) : Prop :=
  ∀ (a : Attrs) (imp : List Box), (∀ x ∈ imp, Q x) →
    okAnd False (TbRes (anon t a [])) (tbc f (anon t a []) imp)

def TbTableShape (box r : Box) : Prop :=
  ∃ (wa : Attrs) (capT capB : List Box) (a' : Attrs) (rg cg : List Box),
    r = .mk (if box.ty == .inlineTable then Ty.inlineBlock else Ty.block) wa
          (capT ++ [.mk box.ty a' rg cg] ++ capB) [] ∧
    wa.tw = true ∧
    (∀ x ∈ capT, x.ty = .tableCaption) ∧ (∀ x ∈ capB, x.ty = .tableCaption) ∧
    (∀ x ∈ rg, x.ty = .tableRowGroup) ∧ (∀ x ∈ cg, x.ty = .tableColumnGroup)

theorem tb_wrapperTy (t : Ty) : (if t == .inlineTable then Ty.inlineBlock else Ty.block) = .block ∨
    (if t == .inlineTable then Ty.inlineBlock else Ty.block) = .inlineBlock := by
  split
  · exact Or.inr rfl
  · exact Or.inl rfl

theorem TbTableShape.res {box r : Box} (ht : isTable box.ty = true) (h : TbTableShape box r) : TbRes box r := by
  obtain ⟨wa, _, _, _, _, _, rfl, hwa, _⟩ := h
  exact ⟨(fun h => nomatch h.symm.trans ht), fun _ => ⟨tb_wrapperTy box.ty, hwa⟩⟩

theorem tb_groups_okAnd (E : Prop) (wrap : List Box → R Box) (g c : Ty) (P : Box → Prop)
    (cs : List Box) (hcs : ∀ x ∈ cs, P x ∧ (x.ty = c ∨ x.ty = g))
    (hw : ∀ l, (∀ x ∈ l, P x ∧ x.ty = c) → okAnd E (fun w => P w ∧ w.ty = g) (wrap l)) :
    okAnd E (fun r => ∀ x ∈ r, P x ∧ x.ty = g) (wrapGo wrap false (·.ty == g) cs []) := by
  refine wrapGo_okAnd E _ _ _ (fun x => P x ∧ x.ty = c) _ (fun l _ hq => hw l hq) cs [] ?_ ?_
    (fun x hx => nomatch hx)
  · intro x hx hf
    refine ⟨(hcs x hx).1, (hcs x hx).2.resolve_right fun e => ?_⟩
    rw [beq_iff_eq.mpr e] at hf; exact nomatch hf
  · intro x hx h; exact ⟨(hcs x hx).1, beq_iff_eq.mp h⟩

theorem tb_wrapTable_ok (f : Nat) (hcg : TbWrapOK f .tableColumnGroup (·.ty = .tableColumn))
    (hrg : TbWrapOK f .tableRowGroup (·.ty = .tableRow)) (box : Box) (it : List Box)
    (hit : ∀ x ∈ it, properTableChild x.ty = true) :
    okAnd False (TbTableShape box) (wrapTable (tbc f) box it) := by
  unfold wrapTable
  refine okAnd_bind (byType_okAnd False it fun x hx h => by rw [hit x hx] at h; exact nomatch h) ?_
  intro ⟨co, ro, ca⟩ ⟨hco, hro, hca⟩
  dsimp only
  refine okAnd_bind (tb_groups_okAnd False _ .tableColumnGroup .tableColumn (fun _ => True) co
    (fun x hx => ⟨trivial, (hco x hx).2⟩)
    (fun l hl => okAnd_mono (fun w hw => ⟨trivial, hw.1 rfl⟩) (hcg box.a l fun x hx => (hl x hx).2))) ?_
  intro cg hcgt
  refine okAnd_bind (tb_groups_okAnd False _ .tableRowGroup .tableRow (fun _ => True) ro
    (fun x hx => ⟨trivial, (hro x hx).2⟩)
    (fun l hl => okAnd_mono (fun w hw => ⟨trivial, hw.1 rfl⟩) (hrg box.a l fun x hx => (hl x hx).2))) ?_
  intro rg hrgt
  obtain ⟨gg, egg, _⟩ := groupsGo_ok (splitGroups rg none none [])
  rw [egg]
  have hsplit := splitGroups_forall (fun x => x.ty = .tableRowGroup) (fun _ h => h) (fun _ h => h) rg none none []
    (fun x hx => (hrgt x hx).2) (fun x hx => nomatch hx) (fun x hx => nomatch hx) (fun x hx => nomatch hx)
  refine ⟨_, _, _, _, _, _, rfl, rfl, ?_, ?_, ?_, ?_⟩
  · intro x hx; exact (hca x (List.mem_filter.mp hx).1).2
  · intro x hx; exact (hca x (List.mem_filter.mp hx).1).2
  · intro x hx
    obtain ⟨g, hg, e⟩ := groupsGo_mem _ gg egg x hx
    obtain ⟨rows, _, rfl⟩ := groupGo_inv g x e
    exact hsplit g hg
  · intro x hx
    obtain ⟨g, hg, n, kids', rfl, _⟩ := assignCols_mem cg 0 x hx
    exact (hcgt g hg).2

/-- after rules 1.x / 2.2 -/
def tbK1 (p c : Ty) : Bool :=
  !(p == .tableColumn) && (!(p == .tableColumnGroup) || c == .tableColumn) &&
    (!(p == .tableRowGroup) || c == .tableRow)
/-- after rules 2.3 / 3.1 -/
def tbK2 (p c : Ty) : Bool :=
  tbK1 p c && (!(p == .tableRow) || c == .tableCell) && (!(c == .tableCell) || p == .tableRow)
/-- after rule 3.2: every proper table child has a proper parent -/
def tbK3 (p c : Ty) : Bool :=
  tbK2 p c && (!properTableChild c || isInProperParents p c)

theorem tbK1_iff (p c : Ty) : tbK1 p c = true ↔
    p ≠ .tableColumn ∧ (p = .tableColumnGroup → c = .tableColumn) ∧ (p = .tableRowGroup → c = .tableRow) := by
  simp only [tbK1, Bool.and_eq_true, bimp_iff, Bool.not_eq_true', beq_iff_eq, beq_eq_false_iff_ne, and_assoc]

theorem tbK2_iff (p c : Ty) : tbK2 p c = true ↔
    tbK1 p c = true ∧ (p = .tableRow → c = .tableCell) ∧ (c = .tableCell → p = .tableRow) := by
  simp only [tbK2, Bool.and_eq_true, bimp_iff, beq_iff_eq, and_assoc]

theorem tbK3_iff (p c : Ty) : tbK3 p c = true ↔
    (p ≠ .tableColumn ∧ (p = .tableColumnGroup → c = .tableColumn) ∧ (p = .tableRowGroup → c = .tableRow) ∧
     (p = .tableRow → c = .tableCell) ∧ (c = .tableCell → p = .tableRow) ∧
     (properTableChild c = true → isInProperParents p c = true)) := by
  simp only [tbK3, Bool.and_eq_true, bimp_iff, tbK2_iff, tbK1_iff, and_assoc]

/-- rule 3.1 wraps a run of cells outside a row into an anonymous row -/
theorem tbK2_wrap (p : Ty) (h : tbK1 p .tableCell = true) (hr : p ≠ .tableRow) : tbK2 p .tableRow = true := by
  obtain ⟨h1, h2, h3⟩ := (tbK1_iff p _).mp h
  exact (tbK2_iff p _).mpr ⟨(tbK1_iff p _).mpr ⟨h1, fun e => Ty.noConfusion (h2 e), fun _ => rfl⟩,
    fun e => absurd e hr, fun e => Ty.noConfusion e⟩

theorem tbK2_pass (p c : Ty) (h : tbK1 p c = true) (hc : c ≠ .tableCell) (hr : p ≠ .tableRow) :
    tbK2 p c = true :=
  (tbK2_iff p c).mpr ⟨h, fun e => absurd e hr, fun e => absurd e hc⟩

theorem tbK3_plain (p w : Ty) (hw : internalTableOrCaption w = false) (h1 : p ≠ .tableColumn)
    (h2 : p ≠ .tableColumnGroup) (h3 : p ≠ .tableRowGroup) (h4 : p ≠ .tableRow) : tbK3 p w = true := by
  refine (tbK3_iff p w).mpr ⟨h1, fun e => absurd e h2, fun e => absurd e h3, fun e => absurd e h4, ?_, ?_⟩
  · intro e; subst e; exact nomatch hw
  · intro e
    have : internalTableOrCaption w = true := by unfold internalTableOrCaption; rw [e]; rfl
    rw [hw] at this; exact nomatch this

/-- rule 3.2 wraps a proper table child without a proper parent; its parent is then none of the table boxes -/
theorem tbK3_wrap (p c w : Ty) (h : tbK2 p c = true) (hc : properTableChild c = true)
    (hp : isInProperParents p c = false) (hw : internalTableOrCaption w = false) : tbK3 p w = true := by
  obtain ⟨hk, h4, _⟩ := (tbK2_iff p c).mp h
  obtain ⟨h1, h2, h3⟩ := (tbK1_iff p c).mp hk
  refine tbK3_plain p w hw h1 ?_ ?_ ?_ <;> intro e <;> subst e
  · rw [h2 rfl] at hp; exact nomatch hp
  · rw [h3 rfl] at hp; exact nomatch hp
  · rw [h4 rfl] at hc; exact nomatch hc

theorem tbK3_pass (p c : Ty) (h : tbK2 p c = true)
    (h2 : (!properTableChild c || isInProperParents p c) = true) : tbK3 p c = true := by
  unfold tbK3; rw [h, h2]; rfl

/-- a child after rules 1.1 – 1.4: a child from before (a column, if the box is a column group), or one of
    the anonymous columns given to an empty column group -/
theorem tbPrep_cases (box : Box) (c0 : List Box) (x : Box) (hx : x ∈ tbPrep box c0) :
    box.ty ≠ .tableColumn ∧
    ((x ∈ c0 ∧ (box.ty = .tableColumnGroup → x.ty = .tableColumn)) ∨
     (box.ty = .tableColumnGroup ∧ x = anon .tableColumn box.a [])) := by
  have hx := tbPrep_mem _ _ _ hx
  unfold tbPrep0 at hx
  split at hx
  · cases hx
  · rename_i h1
    refine ⟨by simpa using h1, ?_⟩
    split at hx
    · rename_i h2
      dsimp only at hx
      split at hx
      · exact Or.inr ⟨by simpa using h2, List.eq_of_mem_replicate hx⟩
      · exact Or.inl ⟨(List.mem_filter.mp hx).1, fun _ => by simpa using (List.mem_filter.mp hx).2⟩
    · rename_i h2; exact Or.inl ⟨hx, fun e => absurd e (by simpa using h2)⟩

theorem tbPrep_K (box : Box) (c0 : List Box) (x : Box) (hx : x ∈ tbPrep box c0) :
    box.ty ≠ .tableColumn ∧ (box.ty = .tableColumnGroup → x.ty = .tableColumn) :=
  let ⟨h1, h2⟩ := tbPrep_cases box c0 x hx
  ⟨h1, fun e => h2.elim (fun h => h.2 e) (fun h => by rw [h.2]; rfl)⟩

/-- `tbc` at a box that is not a table.  `C` is any property of boxes that the children have and the
    anonymous wrappers inherit from the run they are made of. -/
theorem tbc_other_okAnd (E : Prop) (C : Box → Prop) (f : Nat) (box : Box) (c0 : List Box)
    (ht : isTable box.ty = false)
    (hrow : ∀ l, l ≠ [] → (∀ x ∈ l, C x ∧ ((box.ty = .tableRowGroup ∧ x.ty ≠ .tableRow) ∨
        (box.ty ≠ .tableRow ∧ x.ty = .tableCell))) →
      okAnd E (fun w => C w ∧ w.ty = .tableRow) (tbc f (anon .tableRow box.a []) l))
    (hcell : box.ty = .tableRow → ∀ l, (∀ x ∈ l, C x ∧ x.ty ≠ .tableCell) →
      okAnd E (fun w => C w ∧ w.ty = .tableCell) (tbc f (anon .tableCell box.a []) l))
    (htab : ∀ t l, l ≠ [] → isTable t = true → (∀ x ∈ l, C x ∧ tbK2 box.ty x.ty = true ∧
        properTableChild x.ty = true ∧ (box.ty = .inline ∨ isInProperParents box.ty x.ty = false)) →
      okAnd E (fun w => C w ∧ (w.ty = .block ∨ w.ty = .inlineBlock)) (tbc f (anon t box.a []) l))
    (hprep : ∀ x ∈ tbPrep box c0, C x) :
    okAnd E (fun r => ∃ it, r = box.setKids it ∧ ∀ x ∈ it, C x ∧ tbK3 box.ty x.ty = true)
      (tbc (f + 1) box c0) := by
  have hplain : ∀ w : Box, w.ty = .block ∨ w.ty = .inlineBlock → internalTableOrCaption w.ty = false :=
    fun w h => by rcases h with h | h <;> rw [h] <;> rfl
  apply tbc_okAnd E f box c0 (fun it => ∀ x ∈ it, C x ∧ tbK1 box.ty x.ty = true)
    (fun it => ∀ x ∈ it, C x ∧ tbK2 box.ty x.ty = true) (fun it => ∀ x ∈ it, C x ∧ tbK3 box.ty x.ty = true)
  · -- rule 2.2
    by_cases hg : box.ty = .tableRowGroup
    · have hK : ∀ w : Box, w.ty = .tableRow → tbK1 box.ty w.ty = true := fun w e => by rw [e, hg]; rfl
      rw [tbSt1, ht, if_neg Bool.false_ne_true, if_pos (beq_iff_eq.mpr hg)]
      exact wrapGo_okAnd E _ _ _ (fun x => C x ∧ x.ty ≠ .tableRow) _
        (fun l hl hq => okAnd_mono (fun w hw => ⟨hw.1, hK w hw.2⟩)
          (hrow l hl fun x hx => ⟨(hq x hx).1, Or.inl ⟨hg, (hq x hx).2⟩⟩)) _ []
        (fun x hx hf => ⟨hprep x hx, by simpa using hf⟩)
        (fun x hx h => ⟨hprep x hx, hK x (beq_iff_eq.mp h)⟩) (fun x hx => nomatch hx)
    · rw [tbSt1, ht, if_neg Bool.false_ne_true, if_neg (by simpa using hg)]
      intro x hx
      obtain ⟨h1, h2⟩ := tbPrep_K _ _ _ hx
      exact ⟨hprep x hx, (tbK1_iff _ _).mpr ⟨h1, h2, fun e => absurd e hg⟩⟩
  · -- rules 2.3 / 3.1
    intro it hit
    by_cases hr : box.ty = .tableRow
    · have hK : ∀ w : Box, w.ty = .tableCell → tbK2 box.ty w.ty = true := fun w e => by rw [e, hr]; rfl
      rw [tbSt2, if_pos (beq_iff_eq.mpr hr)]
      exact wrapGo_okAnd E _ _ _ (fun x => C x ∧ x.ty ≠ .tableCell) _
        (fun l _ hq => okAnd_mono (fun w hw => ⟨hw.1, hK w hw.2⟩) (hcell hr l hq)) _ []
        (fun x hx hf => ⟨(hit x hx).1, by simpa using hf⟩)
        (fun x hx h => ⟨(hit x hx).1, hK x (beq_iff_eq.mp h)⟩) (fun x hx => nomatch hx)
    · have hK : ∀ l : List Box, l ≠ [] → (∀ x ∈ l, C x ∧ tbK1 box.ty x.ty = true ∧ x.ty = .tableCell) →
          ∀ w : Box, w.ty = .tableRow → tbK2 box.ty w.ty = true := by
        intro l hl hq w e
        obtain ⟨y, hy⟩ := List.exists_mem_of_ne_nil l hl
        obtain ⟨_, hk, ey⟩ := hq y hy
        rw [ey] at hk
        rw [e]; exact tbK2_wrap _ hk hr
      rw [tbSt2, if_neg (mt beq_iff_eq.mp hr)]
      exact wrapGo_okAnd E _ _ _ (fun x => C x ∧ tbK1 box.ty x.ty = true ∧ x.ty = .tableCell) _
        (fun l hl hq => okAnd_mono (fun w hw => ⟨hw.1, hK l hl hq w hw.2⟩)
          (hrow l hl fun x hx => ⟨(hq x hx).1, Or.inr ⟨hr, (hq x hx).2.2⟩⟩)) _ []
        (fun x hx hf => ⟨(hit x hx).1, (hit x hx).2, by simpa using hf⟩)
        (fun x hx h => ⟨(hit x hx).1, tbK2_pass _ _ (hit x hx).2 (by simpa using h) hr⟩)
        (fun x hx => nomatch hx)
  · -- rule 3.2
    intro it hit
    by_cases hi : box.ty = .inline
    · have hK : ∀ w : Box, w.ty = .block ∨ w.ty = .inlineBlock → tbK3 box.ty w.ty = true := fun w hw => by
        rw [hi]
        exact tbK3_plain _ _ (hplain w hw) (fun e => nomatch e) (fun e => nomatch e) (fun e => nomatch e)
          (fun e => nomatch e)
      rw [tbSt3, if_pos (beq_iff_eq.mpr hi)]
      exact wrapGo_okAnd E _ _ _ (fun x => C x ∧ tbK2 box.ty x.ty = true ∧ properTableChild x.ty = true) _
        (fun l hl hq => okAnd_mono (fun w hw => ⟨hw.1, hK w hw.2⟩)
          (htab .inlineTable l hl rfl fun x hx => ⟨(hq x hx).1, (hq x hx).2.1, (hq x hx).2.2, Or.inl hi⟩)) _ []
        (fun x hx hf => ⟨(hit x hx).1, (hit x hx).2, by simpa using hf⟩)
        (fun x hx h => ⟨(hit x hx).1, tbK3_pass _ _ (hit x hx).2
          (by rw [show (!properTableChild x.ty) = true from h]; rfl)⟩)
        (fun x hx => nomatch hx)
    · have hK : ∀ l : List Box, l ≠ [] → (∀ x ∈ l, C x ∧ tbK2 box.ty x.ty = true ∧
          properTableChild x.ty = true ∧ isInProperParents box.ty x.ty = false) →
          ∀ w : Box, w.ty = .block ∨ w.ty = .inlineBlock → tbK3 box.ty w.ty = true := by
        intro l hl hq w hw
        obtain ⟨y, hy⟩ := List.exists_mem_of_ne_nil l hl
        obtain ⟨_, hk, hy1, hy2⟩ := hq y hy
        exact tbK3_wrap _ _ _ hk hy1 hy2 (hplain w hw)
      have hfail : ∀ x : Box, (!properTableChild x.ty || isInProperParents box.ty x.ty) = false →
          properTableChild x.ty = true ∧ isInProperParents box.ty x.ty = false := fun x hf => by
        simpa using hf
      rw [tbSt3, if_neg (mt beq_iff_eq.mp hi)]
      exact wrapGo_okAnd E _ _ _
        (fun x => C x ∧ tbK2 box.ty x.ty = true ∧ properTableChild x.ty = true ∧
          isInProperParents box.ty x.ty = false) _
        (fun l hl hq => okAnd_mono (fun w hw => ⟨hw.1, hK l hl hq w hw.2⟩)
          (htab .table l hl rfl fun x hx =>
            ⟨(hq x hx).1, (hq x hx).2.1, (hq x hx).2.2.1, Or.inr (hq x hx).2.2.2⟩)) _ []
        (fun x hx hf => ⟨(hit x hx).1, (hit x hx).2, hfail x hf⟩)
        (fun x hx h => ⟨(hit x hx).1, tbK3_pass _ _ (hit x hx).2 h⟩)
        (fun x hx => nomatch hx)
  · intro it hit
    rw [tbFin_other _ _ _ ht]
    exact ⟨it, rfl, hit⟩

/-- `tbc` at a table box: only rule 2.1 can make wrappers (rows around the runs of other children);
    everything after it passes, and `wrapTable` gets proper table children -/
theorem tbc_table_okAnd (E : Prop) (C : Box → Prop) (f : Nat) (box : Box) (c0 : List Box)
    (ht : isTable box.ty = true)
    (hrow : ∀ l, l ≠ [] → (∀ x ∈ l, C x ∧ x ∈ tbPrep box c0 ∧ properTableChild x.ty = false) →
      okAnd E (fun w => C w ∧ w.ty = .tableRow) (tbc f (anon .tableRow box.a []) l))
    (hprep : ∀ x ∈ tbPrep box c0, C x) (PR : Box → Prop)
    (hfin : ∀ it, (∀ x ∈ it, C x ∧ properTableChild x.ty = true) → okAnd E PR (wrapTable (tbc f) box it)) :
    okAnd E PR (tbc (f + 1) box c0) := by
  have hnr : box.ty ≠ .tableRow := fun h => by rw [h] at ht; exact nomatch ht
  have hni : box.ty ≠ .inline := fun h => by rw [h] at ht; exact nomatch ht
  apply tbc_okAnd E f box c0 (fun it => ∀ x ∈ it, C x ∧ properTableChild x.ty = true)
    (fun it => ∀ x ∈ it, C x ∧ properTableChild x.ty = true)
    (fun it => ∀ x ∈ it, C x ∧ properTableChild x.ty = true)
  · rw [tbSt1, if_pos ht]
    exact wrapGo_okAnd E _ _ _ (fun x => C x ∧ x ∈ tbPrep box c0 ∧ properTableChild x.ty = false) _
      (fun l hl hq => okAnd_mono (fun w hw => ⟨hw.1, by rw [hw.2]; rfl⟩) (hrow l hl hq)) _ []
      (fun x hx hf => ⟨hprep x hx, hx, hf⟩) (fun x hx h => ⟨hprep x hx, h⟩) (fun x hx => nomatch hx)
  · intro it hit
    rw [tbSt2, if_neg (mt beq_iff_eq.mp hnr), wrapGo_all_pass _ _ _ it fun x hx => by
      simpa using properTableChild_ne_cell _ (hit x hx).2]
    exact hit
  · intro it hit
    rw [tbSt3, if_neg (mt beq_iff_eq.mp hni), wrapGo_all_pass _ _ _ it fun x hx => by
      rw [isInProperParents_table _ _ ht (hit x hx).2]; exact Bool.or_true _]
    exact hit
  · intro it hit
    unfold tbFin; rw [if_pos ht]
    exact hfin it hit

/-! ### the levels of wrapper re-application

  A wrapper made by `tbc` is itself handed to `tbc` with one unit of fuel less.  The chain is at most
  box → row → cell → table → row group / column group, which is why fuel 5 is enough: a group of its own
  children needs fuel 1 (`tb_group_ok`), a table of proper table children 2 (level D, `tb_tab_ok`), a cell of
  non-cells 3 (level C, `tb_cell_ok`), a row of anything 4 (level B, `tb_row_ok`), any box 5 (level A). -/

local macro "tb_ne" : tactic => `(tactic| (intro e; cases e))

/-- one level: the anonymous `t` box is built with fuel `f + 1` as soon as the wrappers it may need itself
    are built with fuel `f` -/
theorem tb_level (f : Nat) (t : Ty) (ht : isTable t = false) (C : Box → Prop)
    (hprep : ∀ a imp, (∀ x ∈ imp, C x) → ∀ x ∈ tbPrep (anon t a []) imp, C x)
    (hrow : ∀ (a : Attrs) l, l ≠ [] → (∀ x ∈ l, C x ∧ ((t = .tableRowGroup ∧ x.ty ≠ .tableRow) ∨
        (t ≠ .tableRow ∧ x.ty = .tableCell))) →
      okAnd False (fun w => C w ∧ w.ty = .tableRow) (tbc f (anon .tableRow a []) l))
    (hcell : t = .tableRow → ∀ (a : Attrs) l, (∀ x ∈ l, C x ∧ x.ty ≠ .tableCell) →
      okAnd False (fun w => C w ∧ w.ty = .tableCell) (tbc f (anon .tableCell a []) l))
    (htab : ∀ (a : Attrs) t' l, l ≠ [] → isTable t' = true → (∀ x ∈ l, C x ∧ tbK2 t x.ty = true ∧
        properTableChild x.ty = true ∧ (t = .inline ∨ isInProperParents t x.ty = false)) →
      okAnd False (fun w => C w ∧ (w.ty = .block ∨ w.ty = .inlineBlock)) (tbc f (anon t' a []) l)) :
    TbWrapOK (f + 1) t C := fun a imp himp =>
  okAnd_mono (fun _ hr => hr.elim fun it h => h.1 ▸ TbRes_setKids (anon t a []) it ht)
    (tbc_other_okAnd False C f (anon t a []) imp ht (hrow _) (fun e => hcell e _) (htab _) (hprep a imp himp))

theorem tb_group_ok (n : Nat) (g c : Ty) (hg : g = .tableColumnGroup ∨ g = .tableRowGroup)
    (hc : c = (if g == .tableRowGroup then Ty.tableRow else Ty.tableColumn)) :
    TbWrapOK (n + 1) g (·.ty = c) := by
  obtain ⟨h1, h2, h3, h4, h5, h6⟩ : isTable g = false ∧ c ≠ .tableCell ∧ isInProperParents g c = true ∧
      (g = .tableRowGroup → c = .tableRow) ∧ g ≠ .tableRow ∧ g ≠ .inline := by
    rcases hg with rfl | rfl <;> subst hc <;> decide
  refine tb_level n g h1 _ (fun a imp himp x hx => ?_) (fun _ l hl hq => ?_) (fun e => absurd e h5)
    (fun _ _ l hl _ hq => ?_)
  · rcases hg with rfl | rfl
    · subst hc; exact (tbPrep_K _ _ _ hx).2 rfl
    · exact (tbPrep_cases _ _ _ hx).2.elim (fun h => himp x h.1) (fun h => absurd h.1 (by tb_ne))
  · obtain ⟨y, hy⟩ := List.exists_mem_of_ne_nil l hl
    obtain ⟨e, h | h⟩ := hq y hy
    · exact absurd (e.trans (h4 h.1)) h.2
    · exact absurd (e.symm.trans h.2) h2
  · obtain ⟨y, hy⟩ := List.exists_mem_of_ne_nil l hl
    obtain ⟨e, _, _, h | h⟩ := hq y hy
    · exact absurd h h6
    · rw [e, h3] at h; cases h

theorem tb_table_core (f : Nat) (box : Box) (c0 : List Box) (ht : isTable box.ty = true)
    (hcg : TbWrapOK f .tableColumnGroup (·.ty = .tableColumn)) (hrg : TbWrapOK f .tableRowGroup (·.ty = .tableRow))
    (hrow : ∀ l, l ≠ [] → (∀ x ∈ l, x ∈ tbPrep box c0 ∧ properTableChild x.ty = false) →
      okAnd False (TbRes (anon .tableRow box.a [])) (tbc f (anon .tableRow box.a []) l)) :
    okAnd False (TbTableShape box) (tbc (f + 1) box c0) :=
  tbc_table_okAnd False (fun _ => True) f box c0 ht
    (fun l hl hq => okAnd_mono (fun _ hw => ⟨trivial, hw.1 rfl⟩) (hrow l hl fun x hx => (hq x hx).2))
    (fun _ _ => trivial) _
    (fun it hit => tb_wrapTable_ok f hcg hrg box it fun x hx => (hit x hx).2)

/-- level D -/
theorem tb_tab_ok (n : Nat) (t : Ty) (ht : isTable t = true) :
    TbWrapOK (n + 2) t (fun x => properTableChild x.ty = true) := by
  intro a imp himp
  refine okAnd_mono (fun r hr => hr.res ht) (tb_table_core (n + 1) (anon t a []) imp ht
    (tb_group_ok n _ _ (Or.inl rfl) rfl) (tb_group_ok n _ _ (Or.inr rfl) rfl) fun l hl hq => ?_)
  -- no wrapper is made: every child is a proper table child
  exfalso
  obtain ⟨y, hy⟩ := List.exists_mem_of_ne_nil l hl
  obtain ⟨hy, hf⟩ := hq y hy
  have hy : y ∈ imp := (tbPrep_cases _ _ _ hy).2.elim (fun h => h.1) fun h => by
    rw [show isTable t = isTable (anon t a []).ty from rfl, h.1] at ht; cases ht
  rw [himp y hy] at hf
  exact nomatch hf

/-- level C -/
theorem tb_cell_ok (n : Nat) : TbWrapOK (n + 3) .tableCell (·.ty ≠ .tableCell) := by
  refine tb_level (n + 2) .tableCell rfl _ (fun a imp himp x hx => ?_) (fun _ l hl hq => ?_)
    (fun e => nomatch e) (fun _ t l _ htt hq => ?_)
  · exact (tbPrep_cases _ _ _ hx).2.elim (fun h => himp x h.1) (fun h => absurd h.1 (by tb_ne))
  · obtain ⟨y, hy⟩ := List.exists_mem_of_ne_nil l hl
    obtain ⟨e, h | h⟩ := hq y hy
    · exact nomatch h.1
    · exact absurd h.2 e
  · refine okAnd_mono (fun w hw => ⟨fun e => ?_, (hw.2 htt).1⟩) (tb_tab_ok n t htt _ l fun x hx => (hq x hx).2.2.1)
    rcases (hw.2 htt).1 with h | h <;> rw [h] at e <;> cases e

/-- level B -/
theorem tb_row_ok (n : Nat) : TbWrapOK (n + 4) .tableRow (fun _ => True) := by
  refine tb_level (n + 3) .tableRow rfl _ (fun _ _ _ _ _ => trivial) (fun _ l hl hq => ?_)
    (fun _ _ l hq => okAnd_mono (fun w hw => ⟨trivial, hw.1 rfl⟩) (tb_cell_ok n _ l fun x hx => (hq x hx).2))
    (fun _ _ l hl _ hq => ?_)
  · obtain ⟨y, hy⟩ := List.exists_mem_of_ne_nil l hl
    obtain ⟨_, h | h⟩ := hq y hy
    · exact nomatch h.1
    · exact absurd rfl h.1
  · -- below a row only cells are left, and a cell is no proper table child
    obtain ⟨y, hy⟩ := List.exists_mem_of_ne_nil l hl
    obtain ⟨_, hk, hp, _⟩ := hq y hy
    rw [((tbK2_iff _ _).mp hk).2.1 rfl] at hp
    cases hp

/-- level A -/
theorem tbc_shape_ok (n : Nat) (box : Box) (c0 : List Box) (ht : isTable box.ty = false) :
    ∃ it, tbc (n + 5) box c0 = .ok (box.setKids it) ∧ ∀ x ∈ it, tbK3 box.ty x.ty = true := by
  have h := tbc_other_okAnd False (fun _ => True) (n + 4) box c0 ht
    (fun l _ _ => okAnd_mono (fun w hw => ⟨trivial, hw.1 rfl⟩) (tb_row_ok n _ l fun _ _ => trivial))
    (fun _ l hl => okAnd_mono (fun w hw => ⟨trivial, hw.1 rfl⟩) (tb_cell_ok (n + 1) _ l fun x hx => (hl x hx).2))
    (fun t l _ htt hl => okAnd_mono (fun w hw => ⟨trivial, (hw.2 htt).1⟩)
      (tb_tab_ok (n + 2) t htt _ l fun x hx => (hl x hx).2.2.1))
    (fun _ _ => trivial)
  obtain ⟨r, hr, it, rfl, hit⟩ := okAnd_false.mp h
  exact ⟨it, hr, fun x hx => (hit x hx).2⟩

theorem tbc_table_ok (n : Nat) (box : Box) (c0 : List Box) (ht : isTable box.ty = true) :
    ∃ r, tbc (n + 5) box c0 = .ok r ∧ TbTableShape box r :=
  okAnd_false.mp (tb_table_core (n + 4) box c0 ht (tb_group_ok (n + 3) _ _ (Or.inl rfl) rfl)
    (tb_group_ok (n + 3) _ _ (Or.inr rfl) rfl) fun l _ _ => tb_row_ok n box.a l fun _ _ => trivial)

theorem tbc_ok (n : Nat) (box : Box) (c0 : List Box) :
    ∃ r, tbc (n + 5) box c0 = .ok r ∧ TbRes box r := by
  cases ht : isTable box.ty
  · obtain ⟨it, hr, _⟩ := tbc_shape_ok n box c0 ht
    exact ⟨_, hr, TbRes_setKids box it ht⟩
  · obtain ⟨r, hr, hs⟩ := tbc_table_ok n box c0 ht
    exact ⟨r, hr, hs.res ht⟩

theorem tbc_shape_table (box : Box) (children : List Box) (ht : isTable box.ty = true) :
    ∃ r, tbc tbcFuel box children = .ok r ∧ TbTableShape box r :=
  tbc_table_ok 3 box children ht

theorem tbc_total_res (box : Box) (children : List Box) :
    ∃ r, tbc tbcFuel box children = .ok r ∧
      (isTable box.ty = false → r.ty = box.ty) ∧
      (isTable box.ty = true → (r.ty = .block ∨ r.ty = .inlineBlock) ∧ r.a.tw = true) :=
  tbc_ok 3 box children

theorem tbc_total_of_ge (f : Nat) (hf : 5 ≤ f) (box : Box) (children : List Box) :
    ∃ r, tbc f box children = .ok r := by
  obtain ⟨n, rfl⟩ : ∃ n, f = n + 5 := ⟨f - 5, by omega⟩
  obtain ⟨r, hr, _⟩ := tbc_ok n box children
  exact ⟨r, hr⟩

mutual
  theorem anonTable_total : ∀ (b : Box), ∃ r, anonTable b = .ok r
    | .mk ty a kids cols => by
      rw [anonTable]
      split
      · exact ⟨_, rfl⟩
      · obtain ⟨ks, hks⟩ := anonTableList_total kids
        rw [hks]
        exact (tbc_total_res _ _).imp fun _ h => h.1
  theorem anonTableList_total : ∀ (l : List Box), ∃ r, anonTableList l = .ok r
    | [] => ⟨[], rfl⟩
    | k :: ks => by
      obtain ⟨k', hk⟩ := anonTable_total k
      obtain ⟨ks', hks⟩ := anonTableList_total ks
      rw [anonTableList, hk, hks]
      exact ⟨_, rfl⟩
end

theorem anonTable_skip (b : Box) (h : isParent b.ty = false ∨ b.a.running = true) :
    anonTable b = .ok b := by
  cases b with
  | mk ty a kids cols =>
    have h : isParent ty = false ∨ a.running = true := h
    rw [anonTable, if_pos (by rcases h with h | h <;> simp [h])]; rfl

theorem anonTable_unfold (b : Box) (hp : isParent b.ty = true) (hr : b.a.running = false) :
    ∃ ks, anonTableList b.kids = .ok ks ∧ anonTable b = tbc tbcFuel b ks := by
  cases b with
  | mk ty a kids cols =>
    have hp : isParent ty = true := hp
    have hr : a.running = false := hr
    obtain ⟨ks, hks⟩ := anonTableList_total kids
    refine ⟨ks, hks, ?_⟩
    rw [anonTable, if_neg (by simp [hp, hr]), hks]; rfl

theorem anonTable_root (b : Box) : ∃ r, anonTable b = .ok r ∧
    (isTable b.ty = false → r.ty = b.ty) ∧
    (isTable b.ty = true → b.a.running = false →
      (r.ty = .block ∨ r.ty = .inlineBlock) ∧ r.a.tw = true ∧ TbTableShape b r) := by
  cases hp : isParent b.ty
  · refine ⟨b, anonTable_skip b (Or.inl hp), fun _ => rfl, fun ht _ => ?_⟩
    rw [(isTable_plain ht).2.1] at hp; cases hp
  · cases hr : b.a.running
    · obtain ⟨ks, _, e⟩ := anonTable_unfold b hp hr
      obtain ⟨r, h, h1, h2⟩ := tbc_total_res b ks
      refine ⟨r, e.trans h, h1, fun ht _ => ⟨(h2 ht).1, (h2 ht).2, ?_⟩⟩
      obtain ⟨r', h', hs⟩ := tbc_shape_table b ks ht
      cases h.symm.trans h'
      exact hs
    · exact ⟨b, anonTable_skip b (Or.inr hr), fun _ => rfl, fun _ h => nomatch h⟩

theorem anonTable_kids (b : Box) (ht : isTable b.ty = false) (hp : isParent b.ty = true)
    (hr : b.a.running = false) :
    ∃ it, anonTable b = .ok (b.setKids it) ∧ ∀ x ∈ it, tbK3 b.ty x.ty = true := by
  obtain ⟨ks, _, e⟩ := anonTable_unfold b hp hr
  obtain ⟨it, h1, h2⟩ := tbc_shape_ok 3 b ks ht
  exact ⟨it, e.trans h1, h2⟩

end WR.C09
