import WR.C09.LemmasGrid
/-
  C09 — the weak grid clause `firstSlotsOK` pins down the only way two cells can share a slot
  (`overlapsOnly175`).  Core Lean only.
-/
namespace WR.C09

abbrev ov_slots (p : Nat × Box) : List (Nat × Nat) := cellSlots p.1 p.2

theorem ov_groupSlots_eq : ∀ (rows : List Box) (r : Nat),
    groupSlotsFrom r rows = (cellsFrom r rows).flatMap ov_slots := by
  intro rows
  induction rows with
  | nil => intro r; rfl
  | cons row rows ih =>
    intro r
    simp only [groupSlotsFrom, cellsFrom, List.flatMap_append, List.flatMap_map, rowSlots, ih]

theorem ov_count_flatMap_le {α β : Type} [BEq β] [LawfulBEq β] (f : α → List β) (s : β) :
    ∀ (l : List α) (q : α), q ∈ l → List.count s (f q) ≤ List.count s (l.flatMap f) := by
  intro l
  induction l with
  | nil => intro q h; cases h
  | cons a l ih =>
    intro q h
    rw [List.flatMap_cons, List.count_append]
    rcases List.mem_cons.mp h with rfl | h
    · omega
    · have := ih q h; omega

theorem ov_nodup_flatMap_pairwise {α β : Type} (f : α → List β) :
    ∀ (l : List α), (l.flatMap f).Nodup → l.Pairwise (fun a b => ∀ x ∈ f a, x ∉ f b) := by
  intro l
  induction l with
  | nil => intro _; exact List.Pairwise.nil
  | cons a l ih =>
    intro h
    rw [List.flatMap_cons, List.nodup_append] at h
    refine List.Pairwise.cons ?_ (ih h.2.1)
    intro b hb x hx hxb
    exact h.2.2 x hx x (List.mem_flatMap.mpr ⟨b, hb, hxb⟩) rfl

/-- the pair relation checked by `pairsOK` -/
def ov_pairOK (p q : Nat × Box) : Prop := (!sharesSlot p q || overlap175 p q) = true

theorem ov_pairsOK_iff : ∀ (l : List (Nat × Box)), pairsOK l = true ↔ l.Pairwise ov_pairOK := by
  intro l
  induction l with
  | nil => simp [pairsOK]
  | cons p rest ih =>
    simp only [pairsOK, Bool.and_eq_true, List.all_eq_true, List.pairwise_cons, ih]
    rfl

/-- document order plus "cells of one row have disjoint column ranges" -/
def ov_Ord (p q : Nat × Box) : Prop :=
  p.1 ≤ q.1 ∧ (p.1 = q.1 → ∀ x, ¬ ((p.2.a.gridX ≤ x ∧ x < p.2.a.gridX + p.2.a.colspan) ∧
                                    (q.2.a.gridX ≤ x ∧ x < q.2.a.gridX + q.2.a.colspan)))

theorem ov_core (all : List (Nat × Nat)) : ∀ (l : List (Nat × Box)),
    List.Sublist (l.flatMap ov_slots) all →
    (∀ p ∈ l, List.count (p.1, p.2.a.gridX) all ≤ 1) →
    (∀ p ∈ l, 1 ≤ p.2.a.colspan ∧ 1 ≤ p.2.a.rowspan) →
    l.Pairwise ov_Ord → l.Pairwise ov_pairOK := by
  intro l
  induction l with
  | nil => intro _ _ _ _; exact List.Pairwise.nil
  | cons p rest ih =>
    intro hsub hfirst hsp hord
    rw [List.flatMap_cons] at hsub
    rw [List.pairwise_cons] at hord
    refine List.Pairwise.cons ?_
      (ih ((List.sublist_append_right _ _).trans hsub) (fun q hq => hfirst q (List.mem_cons_of_mem _ hq))
        (fun q hq => hsp q (List.mem_cons_of_mem _ hq)) hord.2)
    intro q hq
    unfold ov_pairOK
    by_cases hs : ¬ sharesSlot p q = true
    · simp [hs]
    · have hs' : sharesSlot p q = true := Classical.not_not.mp hs
      unfold sharesSlot at hs'
      rw [List.any_eq_true] at hs'
      obtain ⟨⟨y, x⟩, h1, h2⟩ := hs'
      have h2 : (y, x) ∈ cellSlots q.1 q.2 := List.contains_iff_mem.mp h2
      have m1 := (mem_cellSlots p.1 p.2 y x).mp h1
      have m2 := (mem_cellSlots q.1 q.2 y x).mp h2
      obtain ⟨o1, o2⟩ := hord.1 q hq
      have hspq := hsp q (List.mem_cons_of_mem _ hq)
      have hlt : p.1 < q.1 := by
        rcases Nat.lt_or_ge p.1 q.1 with h | h
        · exact h
        · exact absurd ⟨m1.2, m2.2⟩ (o2 (by omega) x)
      -- the first slot of q is counted once
      have hc1 := hfirst q (List.mem_cons_of_mem _ hq)
      have hc2 := List.Sublist.count_le (q.1, q.2.a.gridX) hsub
      rw [List.count_append] at hc2
      have hc2' : List.count (q.1, q.2.a.gridX) (cellSlots p.1 p.2) +
          List.count (q.1, q.2.a.gridX) (List.flatMap ov_slots rest) ≤ List.count (q.1, q.2.a.gridX) all := hc2
      have hc3 := ov_count_flatMap_le ov_slots (q.1, q.2.a.gridX) rest q hq
      have hc4 : List.count (q.1, q.2.a.gridX) (ov_slots q) = 1 := by
        show List.count (q.1, q.2.a.gridX) (cellSlots q.1 q.2) = 1
        rw [count_cellSlots, if_pos]
        omega
      have hc5 : List.count (q.1, q.2.a.gridX) (cellSlots p.1 p.2) = 0 := by omega
      rw [count_cellSlots] at hc5
      have hneg : ¬ ((p.1 ≤ q.1 ∧ q.1 < p.1 + p.2.a.rowspan) ∧
          (p.2.a.gridX ≤ q.2.a.gridX ∧ q.2.a.gridX < p.2.a.gridX + p.2.a.colspan)) := by
        intro hh; rw [if_pos hh] at hc5; omega
      have : overlap175 p q = true := by
        simp only [overlap175, Bool.and_eq_true, decide_eq_true_eq]
        omega
      simp [this]

theorem ov_go_facts (all : List (Nat × Nat)) : ∀ (rows : List Box) (r : Nat),
    firstSlotsOK.go all r rows = true →
    (∀ p ∈ cellsFrom r rows, r ≤ p.1 ∧
      (p.2.a.rowspan = 0 ∨ p.2.a.colspan = 0 ∨ List.count (p.1, p.2.a.gridX) all = 1)) ∧
    (cellsFrom r rows).Pairwise ov_Ord := by
  intro rows
  induction rows with
  | nil => intro r _; exact ⟨fun p hp => (by cases hp), List.Pairwise.nil⟩
  | cons row rows ih =>
    intro r h
    rw [firstSlotsOK_go_cons] at h
    simp only [Bool.and_eq_true] at h
    obtain ⟨⟨h1, h2⟩, h3⟩ := h
    obtain ⟨i1, i2⟩ := ih (r + 1) h3
    simp only [cellsFrom]
    refine ⟨?_, ?_⟩
    · intro p hp
      rcases List.mem_append.mp hp with hp | hp
      · obtain ⟨c, hc, rfl⟩ := List.mem_map.mp hp
        refine ⟨Nat.le_refl _, ?_⟩
        have := List.all_eq_true.mp h1 c hc
        rw [← List.count_eq_length_filter] at this
        simpa [or_assoc] using this
      · have := i1 p hp
        exact ⟨by omega, this.2⟩
    · rw [List.pairwise_append]
      refine ⟨?_, i2, ?_⟩
      · rw [List.pairwise_map]
        refine List.Pairwise.imp ?_ (ov_nodup_flatMap_pairwise _ _ ((nodup_iff _).mp h2))
        intro a b hab
        refine ⟨Nat.le_refl _, fun _ x hx => ?_⟩
        refine hab (r, x) ?_ ?_
        · exact List.mem_map.mpr ⟨x, List.mem_range'_1.mpr hx.1, rfl⟩
        · exact List.mem_map.mpr ⟨x, List.mem_range'_1.mpr hx.2, rfl⟩
      · intro a ha b hb
        obtain ⟨c, _, rfl⟩ := List.mem_map.mp ha
        have := (i1 b hb).1
        exact ⟨by show r ≤ b.1; omega, fun e => by have e' : r = b.1 := e; omega⟩

theorem ov_mem_cellsFrom : ∀ (rows : List Box) (r : Nat) (p : Nat × Box),
    p ∈ cellsFrom r rows → ∃ row ∈ rows, p.2 ∈ rowCells row := by
  intro rows
  induction rows with
  | nil => intro r p hp; cases hp
  | cons row rows ih =>
    intro r p hp
    simp only [cellsFrom] at hp
    rcases List.mem_append.mp hp with hp | hp
    · obtain ⟨c, hc, rfl⟩ := List.mem_map.mp hp
      exact ⟨row, List.mem_cons_self, hc⟩
    · obtain ⟨row', h1, h2⟩ := ih (r + 1) p hp
      exact ⟨row', List.mem_cons_of_mem _ h1, h2⟩

theorem ov_overlapsOnly175 (kids : List Box) (h : firstSlotsOK kids = true)
    (hsp : ∀ row ∈ kids, ∀ c ∈ rowCells row, 1 ≤ c.a.colspan ∧ 1 ≤ c.a.rowspan) :
    overlapsOnly175 kids = true := by
  have hgo : firstSlotsOK.go (groupSlotsFrom 0 kids) 0 kids = true := h
  obtain ⟨f1, f2⟩ := ov_go_facts _ kids 0 hgo
  have hspans : ∀ p ∈ cellsFrom 0 kids, 1 ≤ p.2.a.colspan ∧ 1 ≤ p.2.a.rowspan := by
    intro p hp
    obtain ⟨row, hr, hc⟩ := ov_mem_cellsFrom kids 0 p hp
    exact hsp row hr p.2 hc
  unfold overlapsOnly175
  rw [ov_pairsOK_iff]
  apply ov_core (groupSlotsFrom 0 kids) _ _ _ hspans f2
  · rw [ov_groupSlots_eq]; exact List.Sublist.refl _
  · intro p hp
    have := (f1 p hp).2
    have := hspans p hp
    omega

theorem overlapsOnly175_of_firstSlotsOK (kids : List Box)
    (h : firstSlotsOK kids = true)
    (hsp : kids.all (fun row => (rowCells row).all (fun c => c.a.colspan ≥ 1 && c.a.rowspan ≥ 1)) = true) :
    overlapsOnly175 kids = true := by
  apply ov_overlapsOnly175 kids h
  intro row hr c hc
  have := List.all_eq_true.mp (List.all_eq_true.mp hsp row hr) c hc
  simpa using this

theorem groupGo_overlapsOnly175 (g g' : Box) (h : groupGo g = .ok g')
    (hc : ∀ row ∈ g.kids, ∀ c ∈ rowCells row, 1 ≤ c.a.colspan) : overlapsOnly175 g'.kids = true := by
  have hf := groupGo_firstSlotsOK g g' h
  obtain ⟨rows, hr, rfl⟩ := groupGo_inv g g' h
  exact ov_overlapsOnly175 _ hf (rowsGo_bound (1 ≤ ·) g.kids _ 0 rows hr (List.length_replicate ..) hc).2

end WR.C09
