import WR.C09.LemmasIIB
/-
  C09 — BlockInInline.  The resume-stack loop ends within its fuel `c.size + 1` because `remaining` decreases
  with every extracted block; the pass is total when line boxes are alone, leaves no in-flow block-level box in
  a line and keeps the block-container clause.  `allB p` ("p at every box the pass visits") is the exact
  hypothesis; it follows from `allAll p` and from `allN p` + no running line box.  A running inline box is
  opaque for the pass, so `linesCleanR` / `noFlowBlockR`, `validStack` and `remaining` all stop at
  `c.ty == .inline && !c.a.running`.  A line box nested in a line box is not cleaned, hence `linesAlone`.
-/
namespace WR.C09

def splitWitness : Box :=
  .mk .block {} [ .mk .line {} [ .mk .inline { running := true } [ .mk .text { text := "a" } [] [], .mk .block {} [ .mk .text { text := "b" } [] [] ] [], .mk .text { text := "c" } [] [] ] [] ] [] ] []

/-- a running inline box inside a line is not split -/
theorem running_inline_kept :
    ∃ b', blockInInline splitWitness = .ok b' ∧ allN bcOK b' = true ∧ b' = splitWitness :=
  ⟨splitWitness, rfl, by decide, rfl⟩

mutual
  /-- `noFlowBlock` with running inline boxes opaque -/
  def noFlowBlockR : Box → Bool
    | .mk _ _ kids _ => noFlowBlockRList kids
  def noFlowBlockRList : List Box → Bool
    | [] => true
    | c :: cs => !(isBlockLevel c.ty && inNormalFlow c.a) &&
        (!(c.ty == .inline && !c.a.running) || noFlowBlockR c) && noFlowBlockRList cs
end

/-- `linesClean` with running inline boxes opaque -/
def linesCleanR (_ : Ty) (_ : Attrs) (kids : List Box) : Bool :=
  kids.all (fun c => !(c.ty == .line) || noFlowBlockR c)

mutual
  def allAll (p : Ty → Attrs → List Box → Bool) : Box → Bool
    | .mk ty a kids _ => p ty a kids && allAllList p kids
  def allAllList (p : Ty → Attrs → List Box → Bool) : List Box → Bool
    | [] => true
    | k :: ks => allAll p k && allAllList p ks
end

def validStack : Box → List Nat → Bool
  | _, [] => true
  | b, k :: r => r.isEmpty || (match b.kids[k]? with
      | some c => (c.ty == .inline && !c.a.running) && validStack c r
      | none => false)

mutual
  def remaining : Box → List Nat → Nat
    | .mk _ _ kids _, st =>
      match st with
      | [] => remKids kids 0 0 []
      | k :: r => remKids kids 0 k r
  def remKids : List Box → Nat → Nat → List Nat → Nat
    | [], _, _, _ => 0
    | c :: cs, idx, skip, st =>
      if idx < skip then remKids cs (idx + 1) skip st
      else if isBlockLevel c.ty && inNormalFlow c.a then 1 + remKids cs (idx + 1) skip []
      else if c.ty == .inline && !c.a.running then remaining c st + remKids cs (idx + 1) skip []
      else remKids cs (idx + 1) skip []
end

theorem resumeLoop_ok (pa : Attrs) (step : Resume → R (Box × Option (Box × Resume)))
    (I : Resume → Prop) (μ : Resume → Nat)
    (hstep : ∀ st, I st → ∃ nl r, step st = .ok (nl, r) ∧
      ∀ blk st', r = some (blk, st') → I st' ∧ μ st' < μ st)
    (fuel : Nat) (st₀ : Resume) (acc : List Box) (h0 : I st₀) (hfuel : μ st₀ < fuel) :
    ∃ res, resumeLoop pa step fuel st₀ acc = .ok res := by
  induction fuel generalizing st₀ acc with
  | zero => omega
  | succ fuel ih =>
    obtain ⟨nl, r, he, hr⟩ := hstep st₀ h0
    unfold resumeLoop
    simp only [he, bind, Except.bind]
    cases r with
    | none => exact ⟨_, rfl⟩
    | some p =>
      obtain ⟨hI', hlt⟩ := hr p.1 p.2 rfl
      exact ih p.2 _ hI' (by omega)

theorem resumeLoop_inv (pa : Attrs) (step : Resume → R (Box × Option (Box × Resume))) (P F : Box → Prop)
    (I : Resume → Prop)
    (hstep : ∀ st nl r, I st → step st = .ok (nl, r) → P nl ∧ ∀ blk st', r = some (blk, st') → F blk ∧ I st')
    (hPF : ∀ nl, P nl → F (anonBlock pa [nl])) :
    ∀ (fuel : Nat) (st : Resume) (acc frags : List Box) (last : Box), I st → (∀ x ∈ acc, F x) →
      resumeLoop pa step fuel st acc = .ok (frags, last) → P last ∧ ∀ x ∈ frags, F x
  | 0, _, _, _, _, _, _, he => nomatch he
  | fuel + 1, st, acc, frags, last, hI, hacc, he => by
    unfold resumeLoop at he
    obtain ⟨⟨nl, r⟩, hs, he⟩ := bind_ok_inv he
    obtain ⟨hP, hr⟩ := hstep st nl r hI hs
    cases r with
    | none => cases he; exact ⟨hP, hacc⟩
    | some q =>
      refine resumeLoop_inv pa step P F I hstep hPF fuel q.2 _ frags last (hr q.1 q.2 rfl).2 ?_ he
      exact List.forall_mem_append.2 ⟨hacc, List.forall_mem_cons.2 ⟨hPF nl hP,
        List.forall_mem_singleton.2 (hr q.1 q.2 rfl).1⟩⟩

theorem blockInInline_cases {ty : Ty} {a : Attrs} {kids cols : List Box} {b' : Box}
    (h : blockInInline (.mk ty a kids cols) = .ok b') :
    ((kids.isEmpty || a.running) = true ∧ b' = .mk ty a kids cols) ∨
    ((kids.isEmpty || a.running) = false ∧
      ∃ ks, biiKids a kids.length kids = .ok ks ∧ b' = .mk ty a ks cols) := by
  rw [blockInInline] at h
  cases hc : (kids.isEmpty || a.running) with
  | true =>
    rw [hc, if_pos rfl] at h
    exact Or.inl ⟨rfl, (Except.ok.inj h).symm⟩
  | false =>
    rw [hc, if_neg Bool.false_ne_true] at h
    obtain ⟨ks, hks, h⟩ := bind_ok_inv h
    exact Or.inr ⟨rfl, ks, hks, (Except.ok.inj h).symm⟩

theorem biiKids_cons_cases {pa : Attrs} {n : Nat} {c : Box} {cs r : List Box}
    (h : biiKids pa n (c :: cs) = .ok r) :
    ((c.ty == .line) = true ∧ n = 1 ∧ ∃ frags last rest,
      resumeLoop pa (fun st => innerBII c st) (c.size + 1) [] [] = .ok (frags, last) ∧
      biiKids pa n cs = .ok rest ∧
      r = frags ++ (if frags.isEmpty then last else anonBlock pa [last]) :: rest) ∨
    ((c.ty == .line) = false ∧ ∃ c' rest, blockInInline c = .ok c' ∧ biiKids pa n cs = .ok rest ∧
      r = c' :: rest) := by
  rw [biiKids] at h
  cases hl : (c.ty == .line) with
  | true =>
    rw [hl, if_pos rfl] at h
    cases hn : (n != 1) with
    | true => rw [hn, if_pos rfl] at h; exact nomatch h
    | false =>
      rw [hn, if_neg Bool.false_ne_true] at h
      obtain ⟨⟨frags, last⟩, hloop, h⟩ := bind_ok_inv h
      obtain ⟨rest, hrest, h⟩ := bind_ok_inv h
      exact Or.inl ⟨rfl, by simpa using hn, frags, last, rest, hloop, hrest, (Except.ok.inj h).symm⟩
  | false =>
    rw [hl, if_neg Bool.false_ne_true] at h
    obtain ⟨c', hc', h⟩ := bind_ok_inv h
    obtain ⟨rest, hrest, h⟩ := bind_ok_inv h
    exact Or.inr ⟨rfl, c', rest, hc', hrest, (Except.ok.inj h).symm⟩

def stackHead : Resume → Nat × Resume
  | [] => (0, [])
  | k :: r => (k, r)

theorem innerBII_eq (ty : Ty) (a : Attrs) (kids cols : List Box) (st : Resume) :
    innerBII (.mk ty a kids cols) st =
      (innerKids kids 0 (stackHead st).1 (stackHead st).2 >>= fun p => pure (.mk ty a p.1 cols, p.2)) := by
  cases st <;> rw [innerBII] <;> rfl

theorem innerBII_cases {ty : Ty} {a : Attrs} {kids cols : List Box} {st : Resume} {c' : Box}
    {r : Option (Box × Resume)} (h : innerBII (.mk ty a kids cols) st = .ok (c', r)) :
    ∃ ks, innerKids kids 0 (stackHead st).1 (stackHead st).2 = .ok (ks, r) ∧ c' = .mk ty a ks cols := by
  rw [innerBII_eq] at h
  obtain ⟨⟨ks, r0⟩, hk, h⟩ := bind_ok_inv h
  cases h
  exact ⟨ks, hk, rfl⟩

theorem innerKids_cons_cases {c : Box} {cs : List Box} {idx skip : Nat} {st : Resume} {ks : List Box}
    {r : Option (Box × Resume)} (h : innerKids (c :: cs) idx skip st = .ok (ks, r)) :
    (idx < skip ∧ innerKids cs (idx + 1) skip st = .ok (ks, r)) ∨
    (¬ idx < skip ∧ (isBlockLevel c.ty && inNormalFlow c.a) = true ∧ st = [] ∧
      ∃ blk, blockInInline c = .ok blk ∧ ks = [] ∧ r = some (blk, [idx + 1])) ∨
    (¬ idx < skip ∧ (isBlockLevel c.ty && inNormalFlow c.a) = false ∧
      (c.ty == .inline && !c.a.running) = true ∧ ∃ c' r0, innerBII c st = .ok (c', r0) ∧
        ((∃ blk rs, r0 = some (blk, rs) ∧ ks = [c'] ∧ r = some (blk, idx :: rs)) ∨
         (r0 = none ∧ ∃ rest, innerKids cs (idx + 1) skip [] = .ok (rest, r) ∧ ks = c' :: rest))) ∨
    (¬ idx < skip ∧ (isBlockLevel c.ty && inNormalFlow c.a) = false ∧
      (c.ty == .inline && !c.a.running) = false ∧ st = [] ∧ ∃ c' rest, blockInInline c = .ok c' ∧
        innerKids cs (idx + 1) skip [] = .ok (rest, r) ∧ ks = c' :: rest) := by
  have hst : ∀ {α : Type} {x : R α} {y : α}, (if (!st.isEmpty) = true then throw "Should not skip here" else x) = .ok y →
      st = [] ∧ x = .ok y := by
    intro α x y h
    cases st with
    | nil => exact ⟨rfl, h⟩
    | cons _ _ => exact nomatch h
  rw [innerKids] at h
  by_cases h1 : idx < skip
  · rw [if_pos h1] at h; exact Or.inl ⟨h1, h⟩
  rw [if_neg h1] at h
  cases h2 : (isBlockLevel c.ty && inNormalFlow c.a) with
  | true =>
    rw [h2, if_pos rfl] at h
    obtain ⟨e, h⟩ := hst h
    obtain ⟨blk, hb, h⟩ := bind_ok_inv h
    cases h
    exact Or.inr (Or.inl ⟨h1, rfl, e, blk, hb, rfl, rfl⟩)
  | false =>
    rw [h2, if_neg Bool.false_ne_true] at h
    cases h3 : (c.ty == .inline && !c.a.running) with
    | true =>
      rw [h3, if_pos rfl] at h
      obtain ⟨⟨c', r0⟩, hi, h⟩ := bind_ok_inv h
      refine Or.inr (Or.inr (Or.inl ⟨h1, rfl, rfl, c', r0, hi, ?_⟩))
      cases r0 with
      | some q => cases h; exact Or.inl ⟨_, _, rfl, rfl, rfl⟩
      | none =>
        obtain ⟨⟨rest, r'⟩, hk, h⟩ := bind_ok_inv h
        cases h
        exact Or.inr ⟨rfl, rest, hk, rfl⟩
    | false =>
      rw [h3, if_neg Bool.false_ne_true] at h
      obtain ⟨e, h⟩ := hst h
      obtain ⟨c', hb, h⟩ := bind_ok_inv h
      obtain ⟨⟨rest, r'⟩, hk, h⟩ := bind_ok_inv h
      cases h
      exact Or.inr (Or.inr (Or.inr ⟨h1, rfl, rfl, e, c', rest, hb, hk, rfl⟩))

theorem validStack_nil (b : Box) : validStack b [] = true := by
  unfold validStack; rfl

theorem validStack_cons (b : Box) (k : Nat) (r : List Nat) :
    validStack b (k :: r) = true ↔
      r = [] ∨ ∃ c, b.kids[k]? = some c ∧ (c.ty == .inline && !c.a.running) = true ∧
        validStack c r = true := by
  rw [validStack]
  cases r with
  | nil => simp
  | cons x xs =>
    cases h : b.kids[k]? with
    | none => simp
    | some c => simp

/-- validity of the pair `(skip, st)` for the suffix `cs` of a child list that starts at index `idx` -/
def validAt (cs : List Box) (idx skip : Nat) (st : List Nat) : Prop :=
  st = [] ∨ (idx ≤ skip ∧ ∃ c, cs[skip - idx]? = some c ∧ (c.ty == .inline && !c.a.running) = true ∧
    validStack c st = true)

theorem validStack_iff_validAt (ty : Ty) (a : Attrs) (kids cols : List Box) (st : Resume) :
    validStack (.mk ty a kids cols) st = true ↔ validAt kids 0 (stackHead st).1 (stackHead st).2 := by
  cases st with
  | nil => exact ⟨fun _ => Or.inl rfl, fun _ => validStack_nil _⟩
  | cons k r =>
    rw [validStack_cons]
    exact or_congr_right ⟨fun ⟨c, h⟩ => ⟨Nat.zero_le _, c, h⟩, fun ⟨_, c, h⟩ => ⟨c, h⟩⟩

theorem validAt_cons_lt (c : Box) (cs : List Box) (idx skip : Nat) (st : List Nat) (h : idx < skip) :
    validAt (c :: cs) idx skip st ↔ validAt cs (idx + 1) skip st := by
  have e : skip - idx = (skip - (idx + 1)) + 1 := by omega
  unfold validAt
  rw [e, List.getElem?_cons_succ]
  exact or_congr_right (and_congr_left' ⟨fun _ => by omega, fun _ => by omega⟩)

theorem validAt_head (c : Box) (cs : List Box) (idx skip : Nat) (st : List Nat) (h : ¬ idx < skip)
    (hv : validAt (c :: cs) idx skip st) :
    st = [] ∨ ((c.ty == .inline && !c.a.running) = true ∧ validStack c st = true) := by
  rcases hv with h0 | ⟨h1, c', h2, h3, h4⟩
  · exact Or.inl h0
  · have e : skip - idx = 0 := by omega
    rw [e] at h2
    simp at h2
    subst h2
    exact Or.inr ⟨h3, h4⟩

theorem remKids_skip_irrel : ∀ (cs : List Box) (idx skip skip' : Nat) (st : List Nat),
    skip ≤ idx → skip' ≤ idx → remKids cs idx skip st = remKids cs idx skip' st
  | [], _, _, _, _, _, _ => by simp [remKids]
  | c :: cs, idx, skip, skip', st, h1, h2 => by
    have e := remKids_skip_irrel cs (idx + 1) skip skip' [] (by omega) (by omega)
    have n1 : ¬ idx < skip := by omega
    have n2 : ¬ idx < skip' := by omega
    rw [remKids, remKids]
    simp only [n1, n2, if_false, e]

theorem remKids_cons_lt (c : Box) (cs : List Box) (idx skip : Nat) (st : List Nat) (h : idx < skip) :
    remKids (c :: cs) idx skip st = remKids cs (idx + 1) skip st := by
  rw [remKids]; simp only [h, if_true]

theorem remKids_cons_ge (c : Box) (cs : List Box) (idx skip : Nat) (st : List Nat) (h : ¬ idx < skip) :
    remKids cs (idx + 1) skip [] ≤ remKids (c :: cs) idx skip st := by
  rw [remKids]; simp only [h, if_false]
  split
  · omega
  · split <;> omega

mutual
  theorem remaining_lt_size : (b : Box) → (st : List Nat) → remaining b st < b.size
    | .mk ty a kids cols, st => by
      cases st with
      | nil => have := remKids_le_size kids 0 0 []; simp only [remaining, Box.size]; omega
      | cons k r => have := remKids_le_size kids 0 k r; simp only [remaining, Box.size]; omega
  theorem remKids_le_size : (cs : List Box) → (idx skip : Nat) → (st : List Nat) →
      remKids cs idx skip st ≤ Box.sizeList cs
    | [], _, _, _ => by simp [remKids]
    | c :: cs, idx, skip, st => by
      have h1 := remKids_le_size cs (idx + 1) skip st
      have h2 := remKids_le_size cs (idx + 1) skip []
      have h3 := remaining_lt_size c st
      rw [remKids]; simp only [Box.sizeList]
      split
      · omega
      · split
        · omega
        · split <;> omega
end

/-- progress of the resume stack: a returned stack is non-empty, valid, and strictly decreases `remKids` -/

def PROG (cs : List Box) (idx skip : Nat) (st : List Nat) (r : Option (Box × Resume)) : Prop :=
  ∀ blk st', r = some (blk, st') →
    ∃ k rr, st' = k :: rr ∧ idx ≤ k ∧ skip ≤ k ∧ validAt cs idx k rr ∧
      remKids cs idx k rr < remKids cs idx skip st

/-- progress on the tail, from a count that is not above the one at the head, is progress on the list -/
theorem PROG_cons (c : Box) (cs : List Box) (idx skip : Nat) (st st₁ : List Nat) (r)
    (hle : remKids cs (idx + 1) skip st₁ ≤ remKids (c :: cs) idx skip st)
    (hr : PROG cs (idx + 1) skip st₁ r) : PROG (c :: cs) idx skip st r := by
  intro blk st' e
  obtain ⟨k, rr, e', hk1, hk2, hv, hlt⟩ := hr blk st' e
  refine ⟨k, rr, e', by omega, hk2, (validAt_cons_lt c cs idx k rr (by omega)).2 hv, ?_⟩
  rw [remKids_cons_lt c cs idx k rr (by omega)]
  exact Nat.lt_of_lt_of_le hlt hle

theorem remaining_eq (ty : Ty) (a : Attrs) (kids cols : List Box) (st : Resume) :
    remaining (.mk ty a kids cols) st = remKids kids 0 (stackHead st).1 (stackHead st).2 := by
  cases st <;> rw [remaining] <;> rfl

mutual
  theorem innerBII_progress_free : (c : Box) → (st : Resume) → (c' blk : Box) → (st' : Resume) →
      innerBII c st = .ok (c', some (blk, st')) →
      st' ≠ [] ∧ validStack c st' = true ∧ remaining c st' < remaining c st
    | .mk ty a kids cols, st, c', blk, st', h => by
      obtain ⟨ks, hk, _⟩ := innerBII_cases h
      obtain ⟨k, rr, rfl, _, _, hv', hlt⟩ := innerKids_progress_free kids 0 _ _ ks _ hk blk st' rfl
      refine ⟨List.cons_ne_nil _ _, (validStack_iff_validAt ty a kids cols (k :: rr)).2 hv', ?_⟩
      rw [remaining_eq, remaining_eq]; exact hlt
  theorem innerKids_progress_free : (cs : List Box) → (idx skip : Nat) → (st : Resume) →
      (ks : List Box) → (r : Option (Box × Resume)) →
      innerKids cs idx skip st = .ok (ks, r) → PROG cs idx skip st r
    | [], idx, skip, st, ks, r, h => by
      rw [innerKids] at h
      cases h
      exact fun _ _ e => nomatch e
    | c :: cs, idx, skip, st, ks, r, h => by
      rcases innerKids_cons_cases h with ⟨h1, h⟩ | ⟨h1, h2, rfl, blk, _, rfl, rfl⟩ |
        ⟨h1, h2, h3, c', r0, hi, hr0⟩ | ⟨h1, h2, h3, rfl, c', rest, _, hk, rfl⟩
      · exact PROG_cons c cs idx skip st st r (Nat.le_of_eq (remKids_cons_lt c cs idx skip st h1).symm)
          (innerKids_progress_free cs (idx + 1) skip st ks r h)
      · -- the extracted block no longer counts
        intro blk' st' e
        cases e
        refine ⟨idx + 1, [], rfl, by omega, by omega, Or.inl rfl, ?_⟩
        rw [remKids_cons_lt c cs idx (idx + 1) [] (by omega), remKids]
        simp only [h1, if_false, h2, if_true]
        rw [remKids_skip_irrel cs (idx + 1) (idx + 1) skip [] (by omega) (by omega)]
        omega
      · rcases hr0 with ⟨blk0, rs, rfl, rfl, rfl⟩ | ⟨rfl, rest, hk, rfl⟩
        · -- progress inside the inline box
          obtain ⟨_, q4, q5⟩ := innerBII_progress_free c st c' blk0 rs hi
          intro blk st' e
          cases e
          refine ⟨idx, rs, rfl, Nat.le_refl _, by omega, Or.inr ⟨Nat.le_refl _, c, by simp, h3, q4⟩, ?_⟩
          rw [remKids, remKids]
          simp only [Nat.lt_irrefl, h1, if_false, h2, h3, if_true, Bool.false_eq_true]
          rw [remKids_skip_irrel cs (idx + 1) idx skip [] (by omega) (by omega)]
          omega
        · exact PROG_cons c cs idx skip st [] r (remKids_cons_ge c cs idx skip st h1)
            (innerKids_progress_free cs (idx + 1) skip [] rest r hk)
      · exact PROG_cons c cs idx skip [] [] r (remKids_cons_ge c cs idx skip [] h1)
          (innerKids_progress_free cs (idx + 1) skip [] rest r hk)
end

def noLineKid (ks : List Box) : Bool := ks.all (fun c => !(c.ty == .line))

/-- the children list of a line box or inline box after the pass: no in-flow block reachable, clean lines
    below, no line box among them -/
def CleanKids (ks : List Box) : Prop :=
  noFlowBlockRList ks = true ∧ allNList linesCleanR ks = true ∧ noLineKid ks = true

theorem CleanKids.nil : CleanKids [] := ⟨by simp [noFlowBlockRList], by simp [allNList], by simp [noLineKid]⟩

theorem CleanKids.cons (c : Box) (rest : List Box)
    (hb : (isBlockLevel c.ty && inNormalFlow c.a) = false)
    (hi : (c.ty == .inline && !c.a.running) = true → noFlowBlockR c = true)
    (hcl : allN linesCleanR c = true) (hl : (c.ty == .line) = false) (hk : CleanKids rest) :
    CleanKids (c :: rest) := by
  obtain ⟨k1, k2, k3⟩ := hk
  refine ⟨?_, ?_, ?_⟩
  · rw [noFlowBlockRList, hb, k1]
    cases h : (c.ty == .inline && !c.a.running) with
    | false => simp
    | true => simp [hi h]
  · rw [allNList, hcl, k2]; rfl
  · unfold noLineKid at k3 ⊢; rw [List.all_cons, hl, k3]; rfl

theorem linesCleanR_of_noLineKid (ty : Ty) (a : Attrs) (ks : List Box) (h : noLineKid ks = true) :
    linesCleanR ty a ks = true := by
  exact List.all_eq_true.2 fun x hx => by rw [show (!(x.ty == .line)) = true from List.all_eq_true.1 h x hx]; rfl

/- `allB p`: `p` holds at every box that `blockInInline` visits: like `allN`, but a line box is entered
   even when it is running, and so is every non-running inline box reachable from a line box through
   non-running inline boxes (the descent of `innerBII`). -/
mutual
  def allB (p : Ty → Attrs → List Box → Bool) : Box → Bool
    | .mk ty a kids _ => kids.isEmpty || a.running || (p ty a kids && allBKids p kids)
  def allBKids (p : Ty → Attrs → List Box → Bool) : List Box → Bool
    | [] => true
    | c :: cs => (if c.ty == .line then allBInner p c else allB p c) && allBKids p cs
  def allBInner (p : Ty → Attrs → List Box → Bool) : Box → Bool
    | .mk ty a kids _ => p ty a kids && allBInnerKids p kids
  def allBInnerKids (p : Ty → Attrs → List Box → Bool) : List Box → Bool
    | [] => true
    | c :: cs => (if c.ty == .inline && !c.a.running then allBInner p c else allB p c) && allBInnerKids p cs
end

theorem allBInner_kids (p : Ty → Attrs → List Box → Bool) (c : Box) (h : allBInner p c = true) :
    p c.ty c.a c.kids = true ∧ allBInnerKids p c.kids = true := by
  cases c with
  | mk ty a kids cols => rw [allBInner, Bool.and_eq_true] at h; exact h

theorem inner_of_nonBC (c : Box) (h : allBInner linesAlone c = true) (hbc : isBlockContainer c.ty = false) :
    allBInnerKids linesAlone c.kids = true ∧ noLineKid c.kids = true := by
  obtain ⟨h1, h2⟩ := allBInner_kids _ c h
  refine ⟨h2, ?_⟩
  unfold linesAlone at h1
  rw [hbc] at h1
  simpa [noLineKid] using h1

abbrev biiBLall (ks : List Box) : Bool := ks.all (fun c => isBlockLevel c.ty)

/-- a fragment of a line box after the pass; `bcOK` is known under a hypothesis `B` -/
def CleanLine (B : Prop) (nl : Box) : Prop :=
  (nl.ty == .line) = true ∧ noFlowBlockR nl = true ∧ allN linesCleanR nl = true ∧ (B → allN bcOK nl = true)

/-- an extracted block, or a fragment wrapped in an anonymous block -/
def CleanBlock (B : Prop) (x : Box) : Prop :=
  isBlockLevel x.ty = true ∧ allN linesCleanR x = true ∧ (B → allN bcOK x = true)

theorem bii_anonBlock (pa : Attrs) (B : Prop) (nl : Box) (h : CleanLine B nl) :
    CleanBlock B (anonBlock pa [nl]) := by
  obtain ⟨hl, h2, h3, h4⟩ := h
  exact ⟨rfl, allN_intro (by simp [linesCleanR, h2]) (by rw [allNList, allNList, h3]; rfl),
    fun hB => allN_intro (blockContainerOK_iff.2 (.inr (.inr ⟨nl, rfl, hl⟩))) (by rw [allNList, allNList, h4 hB]; rfl)⟩

/-- The resume loop on a line box `c` whose step does on a valid stack what `innerBII_main` says.  It ends
    because `remaining` decreases, and a stack handed on is valid because every returned stack is
    (`innerBII_progress_free`). -/
theorem biiLine_main (pa : Attrs) (c : Box) (B : Prop) (hl : (c.ty == .line) = true)
    (hstep : ∀ st, validStack c st = true → ∃ c' r, innerBII c st = .ok (c', r) ∧ c'.ty = c.ty ∧
      noFlowBlockR c' = true ∧ allN linesCleanR c' = true ∧
      (∀ blk st', r = some (blk, st') → isBlockLevel blk.ty = true ∧ allN linesCleanR blk = true) ∧
      (B → allN bcOK c' = true ∧ ∀ blk st', r = some (blk, st') → allN bcOK blk = true)) :
    ∃ frags last, resumeLoop pa (fun st => innerBII c st) (c.size + 1) [] [] = .ok (frags, last) ∧
      CleanLine B last ∧ ∀ x ∈ frags, CleanBlock B x := by
  obtain ⟨⟨frags, last⟩, hloop⟩ := resumeLoop_ok pa (fun st => innerBII c st)
    (fun st => validStack c st = true) (remaining c)
    (fun st hv => by
      obtain ⟨nl, r, he, _⟩ := hstep st hv
      exact ⟨nl, r, he, fun blk st' e => by subst e; exact (innerBII_progress_free c st nl blk st' he).2⟩)
    (c.size + 1) [] [] (validStack_nil c) (Nat.lt_succ_of_lt (remaining_lt_size c []))
  refine ⟨frags, last, hloop, resumeLoop_inv pa (fun st => innerBII c st) (CleanLine B) (CleanBlock B)
    (fun st => validStack c st = true)
    (fun st nl r hv hs => by
      obtain ⟨nl', r', he, h1, h2, h3, hr, hbc⟩ := hstep st hv
      cases hs.symm.trans he
      exact ⟨⟨by rw [h1]; exact hl, h2, h3, fun hB => (hbc hB).1⟩, fun blk st' e =>
        ⟨⟨(hr blk st' e).1, (hr blk st' e).2, fun hB => (hbc hB).2 blk st' e⟩,
          by subst e; exact (innerBII_progress_free c st nl blk st' hs).2.1⟩⟩)
    (bii_anonBlock pa B) (c.size + 1) [] [] frags last (validStack_nil c) (fun _ h => nomatch h) hloop⟩

mutual
  theorem bii_main : (b : Box) → allB linesAlone b = true →
      ∃ b', blockInInline b = .ok b' ∧ b'.ty = b.ty ∧ b'.a = b.a ∧ allN linesCleanR b' = true ∧
        (allB bcOK b = true → allN bcOK b' = true)
    | .mk ty a kids cols, h => by
      rw [blockInInline]
      cases hc : (kids.isEmpty || a.running) with
      | true =>
        -- returned as it is: running, or no children
        have e : ∀ p, p ty a [] = true → allN p (.mk ty a kids cols) = true := fun p hp => by
          rcases Bool.or_eq_true_iff.1 hc with h1 | h1
          · rw [List.isEmpty_iff.1 h1]; exact allN_intro hp rfl
          · exact allN_running h1
        exact ⟨_, rfl, rfl, rfl, e _ rfl, fun _ => e _ (blockContainerOK_iff.2 (.inr (.inl fun _ h => nomatch h)))⟩
      | false =>
        rw [allB, hc, Bool.false_or, Bool.and_eq_true] at h
        have hn : kids.length = 1 ∨ noLineKid kids = true := by
          rcases Bool.or_eq_true_iff.1 h.1 with h | h
          · exact Or.inr h
          · obtain ⟨l, e, _⟩ := singleLine_iff.1 (Bool.and_eq_true_iff.1 h).2
            exact Or.inl (by rw [e]; rfl)
        obtain ⟨ks, he, h1, h2, h3⟩ := biiKids_main a kids.length kids h.2 hn
        refine ⟨.mk ty a ks cols, by rw [if_neg Bool.false_ne_true, he]; rfl, rfl, rfl,
          allN_intro h1 h2, fun hb => ?_⟩
        rw [allB, hc, Bool.false_or, Bool.and_eq_true] at hb
        obtain ⟨g1, g2, g3⟩ := h3 hb.2
        refine allN_intro ?_ g1
        rcases blockContainerOK_iff.1 hb.1 with h | h | ⟨l, e, hl⟩
        · exact blockContainerOK_iff.2 (.inl h)
        · exact blockContainerOK_iff.2 (.inr (.inl (List.all_eq_true.1 (g2 (List.all_eq_true.2 h)))))
        · rcases g3 l e hl with q | q
          · exact blockContainerOK_iff.2 (.inr (.inl (List.all_eq_true.1 q)))
          · exact blockContainerOK_iff.2 (.inr (.inr (singleLine_iff.1 q)))
  theorem biiKids_main (pa : Attrs) (n : Nat) : (cs : List Box) → allBKids linesAlone cs = true →
      (n = 1 ∨ noLineKid cs = true) →
      ∃ ks, biiKids pa n cs = .ok ks ∧
        ks.all (fun c => !(c.ty == .line) || noFlowBlockR c) = true ∧ allNList linesCleanR ks = true ∧
        (allBKids bcOK cs = true → allNList bcOK ks = true ∧ (biiBLall cs = true → biiBLall ks = true) ∧
          (∀ l, cs = [l] → (l.ty == .line) = true → biiBLall ks = true ∨ singleLine ks = true))
    | [], _, _ => ⟨[], by rw [biiKids]; rfl, rfl, rfl, fun _ => ⟨rfl, fun _ => rfl, fun l e => nomatch e⟩⟩
    | c :: cs, h, hn => by
      rw [allBKids, Bool.and_eq_true] at h
      obtain ⟨hc, hcs⟩ := h
      obtain ⟨rest, hrest, hr1, hr2, hr3⟩ := biiKids_main pa n cs hcs
        (hn.imp_right fun h => by rw [noLineKid, List.all_cons, Bool.and_eq_true] at h; exact h.2)
      rw [biiKids]
      cases hl : (c.ty == .line) with
      | true =>
        -- a line box has no siblings; the resume loop splits it into clean fragments wrapped in anonymous
        -- blocks, extracted blocks, and the last fragment
        have hn1 : n = 1 := by
          rcases hn with h | h
          · exact h
          · rw [noLineKid, List.all_cons, hl] at h; cases h
        rw [hl, if_pos rfl] at hc
        have hnbc : isBlockContainer c.ty = false := by rw [eq_of_beq hl]; rfl
        have hck := inner_of_nonBC c hc hnbc
        obtain ⟨frags, last, hloop, hP, hF⟩ := biiLine_main pa c (allBInnerKids bcOK c.kids = true) hl
          fun st hv => by
            obtain ⟨c', r, he, h1, h2, h3, hr, hbc⟩ := innerBII_main c st hck.1 hck.2 hv
            exact ⟨c', r, he, h1, h2, h3, hr, hbc hnbc⟩
        have hnc : ∀ nc : Box, nc = (if frags.isEmpty = true then last else anonBlock pa [last]) →
            (!(nc.ty == .line) || noFlowBlockR nc) = true ∧ allN linesCleanR nc = true ∧
            (allBInnerKids bcOK c.kids = true → allN bcOK nc = true) := by
          intro nc e
          split at e
          · subst e; exact ⟨by rw [hP.2.1]; exact Bool.or_true _, hP.2.2⟩
          · subst e; exact ⟨rfl, (bii_anonBlock pa _ last hP).2⟩
        refine ⟨_, by rw [if_pos rfl, if_neg (by rw [hn1]; decide), hloop, hrest]; rfl, ?_, ?_, fun hb => ?_⟩
        · rw [List.all_append, List.all_cons, hr1, (hnc _ rfl).1,
            List.all_eq_true.2 fun x hx => by rw [(blockLevel_not_inline (hF x hx).1).1]; rfl]; rfl
        · rw [allNList_append, allNList, hr2, (hnc _ rfl).2.1,
            allNList_iff.2 (fun x hx => (hF x hx).2.1)]; rfl
        · rw [allBKids, hl, if_pos rfl, Bool.and_eq_true] at hb
          have hH := (allBInner_kids _ c hb.1).2
          obtain ⟨g1, _, _⟩ := hr3 hb.2
          refine ⟨?_, fun hbl => ?_, fun l e _ => ?_⟩
          · rw [allNList_append, allNList, g1, (hnc _ rfl).2.2 hH,
              allNList_iff.2 (fun x hx => (hF x hx).2.2 hH)]; rfl
          · simp [biiBLall, eq_of_beq hl, isCls] at hbl
          · cases e
            rw [biiKids] at hrest
            cases hrest
            cases hfe : frags.isEmpty with
            | true =>
              rw [List.isEmpty_iff.1 hfe]
              exact Or.inr (by simp [singleLine, hP.1])
            | false =>
              left
              have : frags.all (fun c => isBlockLevel c.ty) = true :=
                List.all_eq_true.2 (fun x hx => (hF x hx).1)
              simp only [biiBLall, List.all_append, this, List.all_cons, List.all_nil]
              simp [anonBlock, anon, Box.ty, isCls]
      | false =>
        rw [hl, if_neg Bool.false_ne_true] at hc
        obtain ⟨c', he, hty, ha, hcl, hcb⟩ := bii_main c hc
        refine ⟨c' :: rest, by rw [if_neg Bool.false_ne_true, he, hrest]; rfl, ?_, ?_, fun hb => ?_⟩
        · rw [List.all_cons, hr1, hty, hl]; rfl
        · rw [allNList, hcl, hr2]; rfl
        · rw [allBKids, hl, if_neg Bool.false_ne_true, Bool.and_eq_true] at hb
          obtain ⟨g1, g2, _⟩ := hr3 hb.2
          refine ⟨?_, fun hbl => ?_, fun l e hl' => ?_⟩
          · rw [allNList, hcb hb.1, g1]; rfl
          · simp only [biiBLall, List.all_cons, Bool.and_eq_true] at hbl ⊢
            exact ⟨by rw [hty]; exact hbl.1, g2 hbl.2⟩
          · cases e; rw [hl] at hl'; cases hl'
  theorem innerBII_main : (c : Box) → (st : Resume) → allBInnerKids linesAlone c.kids = true →
      noLineKid c.kids = true → validStack c st = true →
      ∃ c' r, innerBII c st = .ok (c', r) ∧ c'.ty = c.ty ∧ noFlowBlockR c' = true ∧
        allN linesCleanR c' = true ∧
        (∀ blk st', r = some (blk, st') → isBlockLevel blk.ty = true ∧ allN linesCleanR blk = true) ∧
        (isBlockContainer c.ty = false → allBInnerKids bcOK c.kids = true →
          allN bcOK c' = true ∧ ∀ blk st', r = some (blk, st') → allN bcOK blk = true)
    | .mk ty a kids cols, st, hA, hL, hv => by
      obtain ⟨ks, r, he, ⟨k1, k2, k3⟩, hr, hbk⟩ :=
        innerKids_main kids 0 _ _ hA hL ((validStack_iff_validAt ty a kids cols st).1 hv)
      refine ⟨.mk ty a ks cols, r, by rw [innerBII_eq, he]; rfl, rfl, by rw [noFlowBlockR]; exact k1, ?_, hr,
        fun hnb hH => ?_⟩
      · exact allN_intro (linesCleanR_of_noLineKid ty a ks k3) k2
      · obtain ⟨g1, g2⟩ := hbk hH
        simp only [Box.ty] at hnb
        exact ⟨allN_intro (blockContainerOK_iff.2 (.inl hnb)) g1, g2⟩
  theorem innerKids_main : (cs : List Box) → (idx skip : Nat) → (st : Resume) →
      allBInnerKids linesAlone cs = true → noLineKid cs = true → validAt cs idx skip st →
      ∃ ks r, innerKids cs idx skip st = .ok (ks, r) ∧ CleanKids ks ∧
        (∀ blk st', r = some (blk, st') → isBlockLevel blk.ty = true ∧ allN linesCleanR blk = true) ∧
        (allBInnerKids bcOK cs = true →
          allNList bcOK ks = true ∧ ∀ blk st', r = some (blk, st') → allN bcOK blk = true)
    | [], _, _, _, _, _, _ =>
      ⟨[], none, by rw [innerKids]; rfl, CleanKids.nil, (fun _ _ e => nomatch e), fun _ => ⟨rfl, fun _ _ e => nomatch e⟩⟩
    | c :: cs, idx, skip, st, hA, hL, hv => by
      rw [allBInnerKids, Bool.and_eq_true] at hA
      obtain ⟨hAc, hAcs⟩ := hA
      rw [noLineKid, List.all_cons, Bool.and_eq_true] at hL
      have hLc : (c.ty == .line) = false := by simpa using hL.1
      rw [innerKids]
      by_cases h1 : idx < skip
      · rw [if_pos h1]
        obtain ⟨ks, r, he, hk, hr, hbk⟩ := innerKids_main cs (idx + 1) skip st hAcs hL.2
          ((validAt_cons_lt c cs idx skip st h1).1 hv)
        refine ⟨ks, r, he, hk, hr, fun hb => ?_⟩
        rw [allBInnerKids, Bool.and_eq_true] at hb
        exact hbk hb.2
      rw [if_neg h1]
      -- the stack is empty unless the head is the inline box it points into
      have hhead := validAt_head c cs idx skip st h1 hv
      obtain ⟨rest, r', he', hk', hr', hbk'⟩ := innerKids_main cs (idx + 1) skip [] hAcs hL.2 (Or.inl rfl)
      cases h3 : (c.ty == .inline && !c.a.running) with
      | true =>
        -- a non-running inline child is entered
        have h3i : c.ty = .inline := eq_of_beq (Bool.and_eq_true_iff.1 h3).1
        have hnbc : isBlockContainer c.ty = false := by rw [h3i]; rfl
        have h2 : (isBlockLevel c.ty && inNormalFlow c.a) = false := by rw [h3i]; rfl
        rw [h3, if_pos rfl] at hAc
        have hcv : validStack c st = true := by
          rcases hhead with h | ⟨_, h⟩
          · subst h; exact validStack_nil c
          · exact h
        have hck := inner_of_nonBC c hAc hnbc
        obtain ⟨c', r, he, hty, hnf, hcl, hr, hcb⟩ := innerBII_main c st hck.1 hck.2 hcv
        have hkok : ∀ rest, CleanKids rest → CleanKids (c' :: rest) := fun rest =>
          CleanKids.cons c' rest (by rw [hty, h3i]; rfl) (fun _ => hnf) hcl (by rw [hty, h3i]; rfl)
        have hii : ∀ hb : allBInnerKids bcOK (c :: cs) = true,
            allBInnerKids bcOK c.kids = true ∧ allBInnerKids bcOK cs = true := fun hb => by
          rw [allBInnerKids, h3, if_pos rfl, Bool.and_eq_true] at hb
          exact ⟨(allBInner_kids _ c hb.1).2, hb.2⟩
        rw [h2, if_neg Bool.false_ne_true, if_pos rfl, he]
        cases r with
        | some q =>
          refine ⟨[c'], some (q.1, idx :: q.2), rfl, hkok [] CleanKids.nil,
            fun blk' st' e => by cases e; exact hr q.1 q.2 rfl, fun hb => ?_⟩
          obtain ⟨g1, g2⟩ := hcb hnbc (hii hb).1
          exact ⟨by rw [allNList, g1]; rfl, fun blk' st' e => by cases e; exact g2 q.1 q.2 rfl⟩
        | none =>
          refine ⟨c' :: rest, r', by rw [he']; rfl, hkok rest hk', hr', fun hb => ?_⟩
          obtain ⟨g3, g4⟩ := hbk' (hii hb).2
          exact ⟨by rw [allNList, (hcb hnbc (hii hb).1).1, g3]; rfl, g4⟩
      | false =>
        rw [h3, if_neg Bool.false_ne_true] at hAc
        have hst : st = [] := by
          rcases hhead with h | ⟨h, _⟩
          · exact h
          · rw [h3] at h; cases h
        subst hst
        obtain ⟨c', he, hty, ha, hcl, hcb⟩ := bii_main c hAc
        have hni : ∀ hb : allBInnerKids bcOK (c :: cs) = true, allB bcOK c = true ∧ allBInnerKids bcOK cs = true :=
          fun hb => by rw [allBInnerKids, h3, if_neg Bool.false_ne_true, Bool.and_eq_true] at hb; exact hb
        cases h2 : (isBlockLevel c.ty && inNormalFlow c.a) with
        | true =>
          -- an in-flow block-level child is extracted
          refine ⟨[], some (c', [idx + 1]), by rw [if_pos rfl, he]; rfl, CleanKids.nil, fun blk' st' e => ?_, fun hb => ?_⟩
          · cases e; exact ⟨by rw [hty]; exact (Bool.and_eq_true_iff.1 h2).1, hcl⟩
          · exact ⟨rfl, fun blk' st' e => by cases e; exact hcb (hni hb).1⟩
        | false =>
          -- any other child is processed by `blockInInline` and stays
          refine ⟨c' :: rest, r', by rw [if_neg Bool.false_ne_true, if_neg Bool.false_ne_true, he, he']; rfl,
            CleanKids.cons c' rest (by rw [hty, ha]; exact h2) (fun h => by rw [hty, ha, h3] at h; cases h) hcl
              (by rw [hty]; exact hLc) hk', hr', fun hb => ?_⟩
          obtain ⟨g3, g4⟩ := hbk' (hni hb).2
          exact ⟨by rw [allNList, hcb (hni hb).1, g3]; rfl, g4⟩
end

mutual
  theorem allB_of_allAll (p : Ty → Attrs → List Box → Bool) : (b : Box) → allAll p b = true → allB p b = true
    | .mk ty a kids cols, h => by
      rw [allAll, Bool.and_eq_true] at h
      rw [allB, h.1, allBKids_of_allAll p kids h.2]; simp
  theorem allBKids_of_allAll (p : Ty → Attrs → List Box → Bool) :
      (cs : List Box) → allAllList p cs = true → allBKids p cs = true
    | [], _ => by simp [allBKids]
    | c :: cs, h => by
      rw [allAllList, Bool.and_eq_true] at h
      rw [allBKids, allBKids_of_allAll p cs h.2, allB_of_allAll p c h.1, allBInner_of_allAll p c h.1]; simp
  theorem allBInner_of_allAll (p : Ty → Attrs → List Box → Bool) :
      (c : Box) → allAll p c = true → allBInner p c = true
    | .mk ty a kids cols, h => by
      rw [allAll, Bool.and_eq_true] at h
      rw [allBInner, h.1, allBInnerKids_of_allAll p kids h.2]; rfl
  theorem allBInnerKids_of_allAll (p : Ty → Attrs → List Box → Bool) :
      (cs : List Box) → allAllList p cs = true → allBInnerKids p cs = true
    | [], _ => by simp [allBInnerKids]
    | c :: cs, h => by
      rw [allAllList, Bool.and_eq_true] at h
      rw [allBInnerKids, allBInnerKids_of_allAll p cs h.2, allB_of_allAll p c h.1,
        allBInner_of_allAll p c h.1]; simp
end

mutual
  theorem allB_of_allN (p : Ty → Attrs → List Box → Bool) : (b : Box) → allN p b = true →
      allN linesNotRunning b = true → allB p b = true
    | .mk ty a kids cols, h1, h3 => by
      rw [allB]
      cases hr : a.running with
      | true => simp
      | false =>
        rw [allN, hr, Bool.false_or, Bool.and_eq_true] at h1 h3
        rw [h1.1, allBKids_of_allN p kids h1.2 h3.2 h3.1]; simp
  theorem allBKids_of_allN (p : Ty → Attrs → List Box → Bool) : (cs : List Box) → allNList p cs = true →
      allNList linesNotRunning cs = true →
      cs.all (fun c => !(c.ty == .line) || !c.a.running) = true → allBKids p cs = true
    | [], _, _, _ => by simp [allBKids]
    | c :: cs, h1, h3, h5 => by
      rw [allNList, Bool.and_eq_true] at h1 h3
      rw [List.all_cons, Bool.and_eq_true] at h5
      rw [allBKids, allBKids_of_allN p cs h1.2 h3.2 h5.2, Bool.and_true]
      by_cases hl : (c.ty == .line) = true
      · rw [if_pos hl]
        have g5 := h5.1
        simp [hl] at g5
        exact allBInner_of_allN p c h1.1 h3.1 g5
      · rw [if_neg hl]; exact allB_of_allN p c h1.1 h3.1
  theorem allBInner_of_allN (p : Ty → Attrs → List Box → Bool) : (c : Box) → allN p c = true →
      allN linesNotRunning c = true → c.a.running = false → allBInner p c = true
    | .mk ty a kids cols, h1, h3, hr => by
      simp only [Box.a] at hr
      rw [allN, hr, Bool.false_or, Bool.and_eq_true] at h1 h3
      rw [allBInner, h1.1, allBInnerKids_of_allN p kids h1.2 h3.2]; rfl
  theorem allBInnerKids_of_allN (p : Ty → Attrs → List Box → Bool) : (cs : List Box) →
      allNList p cs = true → allNList linesNotRunning cs = true → allBInnerKids p cs = true
    | [], _, _ => by simp [allBInnerKids]
    | c :: cs, h1, h3 => by
      rw [allNList, Bool.and_eq_true] at h1 h3
      rw [allBInnerKids, allBInnerKids_of_allN p cs h1.2 h3.2, Bool.and_true]
      by_cases hi : (c.ty == .inline && !c.a.running) = true
      · rw [if_pos hi]
        have g : c.a.running = false := by simpa using (Bool.and_eq_true_iff.1 hi).2
        exact allBInner_of_allN p c h1.1 h3.1 g
      · rw [if_neg hi]; exact allB_of_allN p c h1.1 h3.1
end

theorem innerBII_ok (c : Box) (st : Resume) (hA : allBInnerKids linesAlone c.kids = true)
    (hL : noLineKid c.kids = true) (hv : validStack c st = true) : ∃ res, innerBII c st = .ok res :=
  let ⟨c', r, he, _⟩ := innerBII_main c st hA hL hv
  ⟨(c', r), he⟩

/-- `innerBII_progress_free` in the setting of `innerBII_ok` -/
theorem innerBII_progress (c : Box) (st : Resume) (hA : allBInnerKids linesAlone c.kids = true)
    (hL : noLineKid c.kids = true) (hv : validStack c st = true) (c' blk : Box) (st' : Resume)
    (h : innerBII c st = .ok (c', some (blk, st'))) :
    st' ≠ [] ∧ validStack c st' = true ∧ remaining c st' < remaining c st :=
  innerBII_progress_free c st c' blk st' h

theorem blockInInline_total (b : Box) (h : allAll linesAlone b = true) :
    ∃ b', blockInInline b = .ok b' ∧ b'.ty = b.ty ∧ b'.a = b.a :=
  let ⟨b', he, h1, h2, _⟩ := bii_main b (allB_of_allAll _ b h)
  ⟨b', he, h1, h2⟩

/-- the hypothesis stops at running boxes; then line boxes must not be running (`running_line_witness`) -/
theorem blockInInline_total_flow (b : Box) (h : allN linesAlone b = true)
    (h4 : allN linesNotRunning b = true) :
    ∃ b', blockInInline b = .ok b' ∧ b'.ty = b.ty ∧ b'.a = b.a :=
  let ⟨b', he, h1, h2, _⟩ := bii_main b (allB_of_allN _ b h h4)
  ⟨b', he, h1, h2⟩

theorem bii_result (b b' : Box) (hb : blockInInline b = .ok b') (h : allB linesAlone b = true) :
    allN linesCleanR b' = true ∧ (allB bcOK b = true → allN bcOK b' = true) := by
  obtain ⟨b'', he, _, _, h3⟩ := bii_main b h
  cases hb.symm.trans he; exact h3

theorem blockInInline_linesClean (b b' : Box) (hb : blockInInline b = .ok b')
    (h : allAll linesAlone b = true) : allN linesCleanR b' = true :=
  (bii_result b b' hb (allB_of_allAll _ b h)).1

/-- false without `h4` (`running_line_witness`) -/
theorem blockInInline_bcOK (b b' : Box) (hb : blockInInline b = .ok b')
    (h1 : allN bcOK b = true) (h2 : allN linesAlone b = true)
    (h4 : allN linesNotRunning b = true) :
    allN bcOK b' = true :=
  (bii_result b b' hb (allB_of_allN _ b h2 h4)).2 (allB_of_allN _ b h1 h4)

theorem blockInInline_bcOK_allAll (b b' : Box) (hb : blockInInline b = .ok b')
    (h1 : allAll bcOK b = true) (h2 : allAll linesAlone b = true) : allN bcOK b' = true :=
  (bii_result b b' hb (allB_of_allAll _ b h2)).2 (allB_of_allAll _ b h1)

/-- a running *line box* is entered by `blockInInline` although `allN` does not look below it: the
    hypotheses `h1 h2` of `blockInInline_bcOK` alone (even with `allN linesNoRunningInline`) do not give `allN bcOK`
    of the result, and `allN linesAlone` (even with `allN linesNoRunningInline`) does not give totality. -/
def runningLineWitness : Box :=
  .mk .block {} [ .mk .line { running := true } [ .mk .block {} [ .mk .text { text := "b" } [] [] ] [] ] [] ] []

def runningLineWitness2 : Box :=
  .mk .block {} [ .mk .line { running := true }
    [ .mk .block {} [ .mk .line {} [] [], .mk .text { text := "b" } [] [] ] [] ] [] ] []

theorem running_line_witness :
    (∃ b', blockInInline runningLineWitness = .ok b' ∧ allN bcOK runningLineWitness = true ∧
      allN linesAlone runningLineWitness = true ∧ allN linesNoRunningInline runningLineWitness = true ∧
      allN bcOK b' = false) ∧
    (allN linesAlone runningLineWitness2 = true ∧ allN linesNoRunningInline runningLineWitness2 = true ∧
      blockInInline runningLineWitness2 = .error "Line boxes should have no siblings at this stage") := by
  exact ⟨⟨_, rfl, by decide, by decide, by decide, by decide⟩, by decide, by decide, rfl⟩

/-! ### InlineInBlock's output (on a tree of shape `preIIB`) satisfies the hypotheses above (`IIBGood`) -/

/-- no child is a running inline box (running inline boxes are opaque for `blockInInline`, so nothing
    here needs it as a hypothesis) -/
def noRunInl (_ : Ty) (_ : Attrs) (kids : List Box) : Bool :=
  kids.all (fun c => !(c.ty == .inline && c.a.running))

/-- not a running line box -/
def CHead (x : Box) : Prop := (x.ty == .line) = true → x.a.running = false

def CAll (x : Box) : Prop := allN linesNotRunning x = true

def CK (x : Box) : Prop := CHead x ∧ CAll x

theorem iibList_CK_aux : ∀ (ks ks' : List Box), allNList preIIB ks = true →
    (∀ k ∈ ks, CHead k) →
    inlineInBlockList ks = .ok ks' → ∀ k' ∈ ks', CK k' := by
  intro ks ks' h hH he k' hk'
  obtain ⟨ks'', he', hg, hpres⟩ := inlineInBlockList_wf_aux ks h
  cases he.symm.trans he'
  obtain ⟨k, hk, hty, ha⟩ := hpres k' hk'
  exact ⟨by unfold CHead; rw [hty, ha]; exact hH k hk, (hg k' hk').2.2⟩

theorem inlineInBlock_lines_strong (b b' : Box) (h : allN preIIB b = true)
    (hb : inlineInBlock b = .ok b') :
    b'.ty = b.ty ∧ b'.a = b.a ∧ allN linesNotRunning b' = true := by
  obtain ⟨b'', hb', hty, ha, hg⟩ := inlineInBlock_wf_aux b h
  cases hb.symm.trans hb'
  exact ⟨hty, ha, hg.2.2⟩

theorem inline_passes_wf (g : Box) (h : allN preIIB g = true) :
    ∃ i o, inlineInBlock g = .ok i ∧ blockInInline i = .ok o ∧ o.ty = g.ty ∧ o.a = g.a ∧
      allN bcOK o = true ∧ allN linesCleanR o = true := by
  obtain ⟨i, hi, hty, ha, hbc, hla, hnr⟩ := inlineInBlock_wf_aux g h
  obtain ⟨o, ho, hty', ha', hcl, hb⟩ := bii_main i (allB_of_allN _ i hla hnr)
  exact ⟨i, o, hi, ho, hty'.trans hty, ha'.trans ha, hb (allB_of_allN _ i hbc hnr), hcl⟩

/-- a block containing an inline box that contains text "a", a block with text "c", and text "b" -/
def exCompose : Box :=
  .mk .block {} [
    .mk .inline {} [
      .mk .text { text := "a" } [] [],
      .mk .block {} [.mk .text { text := "c" } [] []] [],
      .mk .text { text := "b" } [] []] []] []

example : allN preIIB exCompose = true := by decide

/-- the block is lifted out of the inline box: anonymous block / block / anonymous block -/
example : ∃ i o, inlineInBlock exCompose = .ok i ∧ blockInInline i = .ok o ∧
    allN bcOK o = true ∧ allN linesCleanR o = true ∧ allN linesClean o = true ∧
    (o.kids.map Box.ty) = [.block, .block, .block] :=
  ⟨_, _, rfl, rfl, by decide, by decide, by decide, by decide⟩

end WR.C09
