import WR.C09.LemmasBasic
/-
  C09 — the grid-slot assignment loop of wrapTable (`firstFree` / `cellsGo` / `rowsGo` / `groupGo`): the least
  free column, one row (`cellsGo_spec`), no "index out of range", and the occupancy invariant (`Cov`, `Down`)
  behind the grid clauses.  Full disjointness (`gridOK`) is FALSE for the code (`grid_overlap_witness`: a
  colspan-2 cell runs into a rowspan-2 cell of the previous row); `firstSlotsOK` holds for every output, and
  `gridOK` when every visible cell has colspan 1.
-/
namespace WR.C09

theorem firstFreeAux_spec : ∀ (fuel : Nat) (occ : List Nat) (gx : Nat), occ.length ≤ fuel →
    gx ≤ firstFreeAux fuel occ gx ∧ firstFreeAux fuel occ gx ∉ occ ∧
    ∀ j, gx ≤ j → j < firstFreeAux fuel occ gx → j ∈ occ := by
  intro fuel
  induction fuel with
  | zero =>
    intro occ gx h
    have : occ = [] := List.eq_nil_of_length_eq_zero (Nat.le_zero.mp h)
    subst this
    simp only [firstFreeAux]
    refine ⟨Nat.le_refl _, by simp, ?_⟩
    intro j h1 h2; omega
  | succ f ih =>
    intro occ gx h
    simp only [firstFreeAux]
    by_cases hc : occ.contains gx = true
    · rw [if_pos hc]
      have hm : gx ∈ occ := List.contains_iff_mem.mp hc
      have hl : (occ.erase gx).length ≤ f := by
        rw [List.length_erase_of_mem hm]; omega
      obtain ⟨h1, h2, h3⟩ := ih (occ.erase gx) (gx + 1) hl
      refine ⟨by omega, ?_, ?_⟩
      · intro hr
        have hne : firstFreeAux f (occ.erase gx) (gx + 1) ≠ gx := by omega
        exact h2 ((List.mem_erase_of_ne hne).mpr hr)
      · intro j hj1 hj2
        by_cases hj : j = gx
        · subst hj; exact hm
        · exact List.mem_of_mem_erase (h3 j (by omega) hj2)
    · rw [if_neg hc]
      refine ⟨Nat.le_refl _, ?_, ?_⟩
      · intro hm; exact hc (List.contains_iff_mem.mpr hm)
      · intro j h1 h2; omega

theorem firstFree_not_mem (occ : List Nat) (gx : Nat) : firstFree occ gx ∉ occ :=
  (firstFreeAux_spec occ.length occ gx (Nat.le_refl _)).2.1
theorem firstFree_ge (occ : List Nat) (gx : Nat) : gx ≤ firstFree occ gx :=
  (firstFreeAux_spec occ.length occ gx (Nat.le_refl _)).1
theorem firstFree_min (occ : List Nat) (gx j : Nat) : gx ≤ j → j < firstFree occ gx → j ∈ occ :=
  (firstFreeAux_spec occ.length occ gx (Nat.le_refl _)).2.2 j

theorem markFirst_length : ∀ (n : Nat) (fs : List (List Nat)) (s : List Nat),
    (markFirst n fs s).length = fs.length := by
  intro n
  induction n with
  | zero => intro fs s; cases fs <;> rfl
  | succ n ih =>
    intro fs s
    cases fs with
    | nil => rfl
    | cons f fs => simp only [markFirst, List.length_cons, ih]

theorem clipRowspan_bounds (rs n : Nat) : 1 ≤ clipRowspan rs n ∧ clipRowspan rs n ≤ n + 1 := by
  unfold clipRowspan
  by_cases h1 : rs = 1
  · simp [h1]
  · by_cases h0 : rs = 0
    · simp [h0]
    · have e1 : (rs == 1) = false := by simp [h1]
      have e0 : (rs == 0) = false := by simp [h0]
      simp only [e1, e0]
      simp only [Bool.false_eq_true, if_false]
      omega

/-- the occupancy of the following rows after a cell has been placed -/
def nextFollowing (c : Box) (occThis : List Nat) (following : List (List Nat)) (gx0 : Nat) : List (List Nat) :=
  if c.a.rowspan == 1 then following
  else markFirst (clipRowspan c.a.rowspan following.length - 1) following
        (List.range' (firstFree occThis gx0) c.a.colspan)

/-- the cell as stored by the loop -/
def placed (c : Box) (occThis : List Nat) (following : List (List Nat)) (gx0 : Nat) : Box :=
  c.setA { c.a with gridX := firstFree occThis gx0, rowspan := clipRowspan c.a.rowspan following.length }

theorem cellsGo_nil (occThis : List Nat) (following : List (List Nat)) (gx0 : Nat) :
    cellsGo [] occThis following gx0 = ([], following) := rfl

theorem cellsGo_cons (c : Box) (cs : List Box) (occThis : List Nat) (following : List (List Nat)) (gx0 : Nat) :
    cellsGo (c :: cs) occThis following gx0 =
      (placed c occThis following gx0 ::
        (cellsGo cs occThis (nextFollowing c occThis following gx0) (firstFree occThis gx0 + c.a.colspan)).1,
       (cellsGo cs occThis (nextFollowing c occThis following gx0) (firstFree occThis gx0 + c.a.colspan)).2) := rfl

theorem nextFollowing_length (c : Box) (occThis : List Nat) (following : List (List Nat)) (gx0 : Nat) :
    (nextFollowing c occThis following gx0).length = following.length := by
  unfold nextFollowing
  split
  · rfl
  · exact markFirst_length _ _ _

/-- everything the grid loop leaves alone -/
def cellKey (c : Box) : Ty × List Box × List Box × Attrs :=
  (c.ty, c.kids, c.cols, { c.a with gridX := 0, rowspan := 0 })

theorem placed_key (c : Box) (occThis : List Nat) (following : List (List Nat)) (gx0 : Nat) :
    cellKey (placed c occThis following gx0) = cellKey c := by
  cases c; rfl

theorem placed_gridX (c : Box) (occThis : List Nat) (following : List (List Nat)) (gx0 : Nat) :
    (placed c occThis following gx0).a.gridX = firstFree occThis gx0 := rfl
theorem placed_colspan (c : Box) (occThis : List Nat) (following : List (List Nat)) (gx0 : Nat) :
    (placed c occThis following gx0).a.colspan = c.a.colspan := rfl
theorem placed_rowspan (c : Box) (occThis : List Nat) (following : List (List Nat)) (gx0 : Nat) :
    (placed c occThis following gx0).a.rowspan = clipRowspan c.a.rowspan following.length := rfl

/-- cells ordered left to right without overlap (how `cellsGo` leaves a row) -/
def Sorted (cells : List Box) : Prop :=
  cells.Pairwise (fun a b => a.a.gridX + a.a.colspan ≤ b.a.gridX)

theorem cellsGo_spec (cells : List Box) (occThis : List Nat) (following : List (List Nat)) (gx0 : Nat) :
    (cellsGo cells occThis following gx0).1.map cellKey = cells.map cellKey ∧
    (cellsGo cells occThis following gx0).2.length = following.length ∧
    (cellsGo cells occThis following gx0).1.Pairwise (fun a b => a.a.gridX + a.a.colspan ≤ b.a.gridX) ∧
    ∀ c ∈ (cellsGo cells occThis following gx0).1,
      (gx0 ≤ c.a.gridX ∧ c.a.gridX ∉ occThis) ∧ (1 ≤ c.a.rowspan ∧ c.a.rowspan ≤ following.length + 1) ∧
      ∃ d ∈ cells, ∃ gx rs, c = d.setA { d.a with gridX := gx, rowspan := rs } := by
  induction cells generalizing following gx0 with
  | nil => exact ⟨rfl, rfl, List.Pairwise.nil, fun c hc => nomatch hc⟩
  | cons c cs ih =>
    obtain ⟨k, l, s, m⟩ := ih (nextFollowing c occThis following gx0) (firstFree occThis gx0 + c.a.colspan)
    rw [cellsGo_cons]
    refine ⟨by simp only [List.map_cons, k, placed_key], by rw [l, nextFollowing_length],
      List.Pairwise.cons (fun d hd => (m d hd).1.1) s, fun d hd => ?_⟩
    rcases List.mem_cons.mp hd with rfl | hd
    · exact ⟨⟨firstFree_ge _ _, firstFree_not_mem _ _⟩, clipRowspan_bounds _ _, c, List.mem_cons_self, _, _, rfl⟩
    · obtain ⟨⟨g1, g2⟩, r, d0, hd0, e⟩ := m d hd
      have h2 := firstFree_ge occThis gx0
      rw [nextFollowing_length] at r
      exact ⟨⟨by omega, g2⟩, r, d0, List.mem_cons_of_mem _ hd0, e⟩

theorem cellsGo_key (cells : List Box) (occThis : List Nat) (following : List (List Nat)) (gx0 : Nat) :
    (cellsGo cells occThis following gx0).1.map cellKey = cells.map cellKey :=
  (cellsGo_spec cells occThis following gx0).1

theorem cellsGo_length (cells : List Box) (occThis : List Nat) (following : List (List Nat)) (gx0 : Nat) :
    (cellsGo cells occThis following gx0).1.length = cells.length := by
  have h := congrArg List.length (cellsGo_key cells occThis following gx0)
  rwa [List.length_map, List.length_map] at h

theorem cellsGo_unchanged (cells : List Box) (occThis : List Nat) (following : List (List Nat)) (gx0 : Nat) :
    (cellsGo cells occThis following gx0).1.map (fun c => (c.ty, c.kids, c.cols, c.a.colspan))
      = cells.map (fun c => (c.ty, c.kids, c.cols, c.a.colspan)) := by
  have h := congrArg (List.map (fun k : Ty × List Box × List Box × Attrs => (k.1, k.2.1, k.2.2.1, k.2.2.2.colspan)))
    (cellsGo_key cells occThis following gx0)
  simpa only [List.map_map, Function.comp_def, cellKey] using h

theorem cellsGo_following_length (cells : List Box) (occThis : List Nat) (following : List (List Nat)) (gx0 : Nat) :
    (cellsGo cells occThis following gx0).2.length = following.length :=
  (cellsGo_spec cells occThis following gx0).2.1

theorem cellsGo_sorted (cells : List Box) (occThis : List Nat) (following : List (List Nat)) (gx0 : Nat) :
    (cellsGo cells occThis following gx0).1.Pairwise (fun a b => a.a.gridX + a.a.colspan ≤ b.a.gridX) :=
  (cellsGo_spec cells occThis following gx0).2.2.1

theorem cellsGo_gridX_free (cells : List Box) (occThis : List Nat) (following : List (List Nat)) (gx0 : Nat) :
    ∀ c ∈ (cellsGo cells occThis following gx0).1, gx0 ≤ c.a.gridX ∧ c.a.gridX ∉ occThis :=
  fun c hc => ((cellsGo_spec cells occThis following gx0).2.2.2 c hc).1

theorem cellsGo_rowspan (cells : List Box) (occThis : List Nat) (following : List (List Nat)) (gx0 : Nat) :
    ∀ c ∈ (cellsGo cells occThis following gx0).1, 1 ≤ c.a.rowspan ∧ c.a.rowspan ≤ following.length + 1 :=
  fun c hc => ((cellsGo_spec cells occThis following gx0).2.2.2 c hc).2.1

theorem cellsGo_mem (cells : List Box) (occThis : List Nat) (following : List (List Nat)) (gx0 : Nat) :
    ∀ c' ∈ (cellsGo cells occThis following gx0).1,
      ∃ c ∈ cells, ∃ gx rs, c' = c.setA { c.a with gridX := gx, rowspan := rs } :=
  fun c hc => ((cellsGo_spec cells occThis following gx0).2.2.2 c hc).2.2

theorem cellsGo_colspan (cells : List Box) (occThis : List Nat) (following : List (List Nat)) (gx0 : Nat) :
    ∀ c ∈ (cellsGo cells occThis following gx0).1, ∃ d ∈ cells, c.a.colspan = d.a.colspan := by
  intro c hc
  obtain ⟨d, hd, _, _, rfl⟩ := cellsGo_mem cells occThis following gx0 c hc
  exact ⟨d, hd, rfl⟩

theorem rowsGo_nil (occs : List (List Nat)) : rowsGo [] occs = .ok [] := by
  cases occs <;> rfl

theorem rowsGo_cons (row : Box) (rows : List Box) (occThis : List Nat) (following : List (List Nat)) :
    rowsGo (row :: rows) (occThis :: following) =
      (rowsGo rows (cellsGo row.kids occThis following 0).2).bind
        (fun rest => .ok (row.setKids (cellsGo row.kids occThis following 0).1 :: rest)) := rfl

theorem rowsGo_cons_inv {row : Box} {rows : List Box} {occs : List (List Nat)} {out : List Box}
    (h : rowsGo (row :: rows) occs = .ok out) :
    ∃ occThis following rest, occs = occThis :: following ∧
      rowsGo rows (cellsGo row.kids occThis following 0).2 = .ok rest ∧
      out = row.setKids (cellsGo row.kids occThis following 0).1 :: rest := by
  cases occs with
  | nil => cases h
  | cons occThis following =>
    rw [rowsGo_cons] at h
    cases hr : rowsGo rows (cellsGo row.kids occThis following 0).2 with
    | error e => rw [hr] at h; cases h
    | ok rest =>
      rw [hr] at h
      cases h
      exact ⟨occThis, following, rest, rfl, hr, rfl⟩

theorem rowsGo_ok (rows : List Box) (occs : List (List Nat)) :
    occs.length = rows.length → ∃ out, rowsGo rows occs = .ok out ∧ out.length = rows.length := by
  induction rows generalizing occs with
  | nil => intro _; exact ⟨[], rowsGo_nil occs, rfl⟩
  | cons row rows ih =>
    intro h
    cases occs with
    | nil => cases h
    | cons occThis following =>
      have hl : (cellsGo row.kids occThis following 0).2.length = rows.length := by
        rw [cellsGo_following_length]; simpa using h
      obtain ⟨rest, hr, hlen⟩ := ih _ hl
      refine ⟨row.setKids (cellsGo row.kids occThis following 0).1 :: rest, ?_, by simp [hlen]⟩
      rw [rowsGo_cons, hr]; rfl

theorem groupGo_eq (g : Box) :
    groupGo g = (rowsGo g.kids (List.replicate g.kids.length [])).bind (fun rows => .ok (g.setKids rows)) := rfl

theorem groupGo_inv (g g' : Box) (h : groupGo g = .ok g') :
    ∃ rows, rowsGo g.kids (List.replicate g.kids.length []) = .ok rows ∧ g' = g.setKids rows := by
  rw [groupGo] at h
  obtain ⟨rows, hr, h⟩ := bind_ok_inv h
  cases h
  exact ⟨rows, hr, rfl⟩

theorem groupGo_ok (g : Box) : ∃ g', groupGo g = .ok g' ∧ g'.ty = g.ty ∧ g'.kids.length = g.kids.length := by
  obtain ⟨out, ho, hl⟩ := rowsGo_ok g.kids (List.replicate g.kids.length []) (by simp)
  refine ⟨g.setKids out, ?_, rfl, hl⟩
  rw [groupGo_eq, ho]; rfl

theorem groupsGo_ok (gs : List Box) : ∃ out, groupsGo gs = .ok out ∧ out.length = gs.length := by
  induction gs with
  | nil => exact ⟨[], rfl, rfl⟩
  | cons g gs ih =>
    obtain ⟨g', hg, _, _⟩ := groupGo_ok g
    obtain ⟨out, ho, hl⟩ := ih
    refine ⟨g' :: out, ?_, by simp [hl]⟩
    show (groupGo g).bind (fun g' => (groupsGo gs).bind (fun r => .ok (g' :: r))) = _
    rw [hg, ho]; rfl

/-- a colspan-2 cell whose first column is free runs into a rowspan-2 cell of the previous row -/
def witnessGroup : Box :=
  Box.mk .tableRowGroup {}
    [ Box.mk .tableRow {}
        [ Box.mk .tableCell { colspan := 1, rowspan := 1 } [] [],
          Box.mk .tableCell { colspan := 1, rowspan := 2 } [] [] ] [],
      Box.mk .tableRow {}
        [ Box.mk .tableCell { colspan := 2, rowspan := 1 } [] [] ] [] ] []

/-- what the loop makes of `witnessGroup`: both the rowspan-2 cell of row 0 (column 1) and the
    colspan-2 cell of row 1 (columns 0–1) hold slot (1, 1) -/
def witnessOut : Box :=
  Box.mk .tableRowGroup {}
    [ Box.mk .tableRow {}
        [ Box.mk .tableCell { colspan := 1, rowspan := 1, gridX := 0 } [] [],
          Box.mk .tableCell { colspan := 1, rowspan := 2, gridX := 1 } [] [] ] [],
      Box.mk .tableRow {}
        [ Box.mk .tableCell { colspan := 2, rowspan := 1, gridX := 0 } [] [] ] [] ] []

theorem witness_run : groupGo witnessGroup = .ok witnessOut := by rfl

theorem grid_overlap_witness :
    ∃ g', groupGo witnessGroup = .ok g' ∧ gridOK g'.ty g'.kids = false ∧ firstSlotsOK g'.kids = true :=
  ⟨witnessOut, witness_run, by decide, by decide⟩

theorem nodup_iff (l : List (Nat × Nat)) : nodup l = true ↔ l.Nodup := by
  induction l with
  | nil => simp [nodup]
  | cons x xs ih => simp [nodup, List.nodup_cons, ih]

theorem nodup_flatMap_of {α β : Type} (f : α → List β) (l : List α)
    (hp : l.Pairwise (fun a b => ∀ x ∈ f a, ∀ y ∈ f b, x ≠ y)) (hn : ∀ a ∈ l, (f a).Nodup) :
    (l.flatMap f).Nodup := by
  induction l with
  | nil => simp
  | cons a l ih =>
    rw [List.flatMap_cons, List.nodup_append]
    rw [List.pairwise_cons] at hp
    refine ⟨hn a (List.mem_cons_self), ih hp.2 (fun b hb => hn b (List.mem_cons_of_mem _ hb)), ?_⟩
    intro x hx y hy
    obtain ⟨b, hb, hyb⟩ := List.mem_flatMap.mp hy
    exact hp.1 b hb x hx y hyb

theorem nodup_map_pair_left (y : Nat) (s n : Nat) : ((List.range' s n).map fun x => (y, x)).Nodup := by
  unfold List.Nodup
  rw [List.pairwise_map]
  refine (List.pairwise_lt_range' (s := s) (n := n)).imp ?_
  intro a b h e
  injection e with _ e2
  omega

theorem mem_cellSlots (r : Nat) (c : Box) (y x : Nat) :
    (y, x) ∈ cellSlots r c ↔ (r ≤ y ∧ y < r + c.a.rowspan) ∧ (c.a.gridX ≤ x ∧ x < c.a.gridX + c.a.colspan) := by
  simp only [cellSlots, List.mem_flatMap, List.mem_map, List.mem_range'_1, Prod.mk.injEq]
  constructor
  · rintro ⟨y', hy, x', hx, rfl, rfl⟩; exact ⟨hy, hx⟩
  · rintro ⟨hy, hx⟩; exact ⟨y, hy, x, hx, rfl, rfl⟩

theorem nodup_cellSlots (r : Nat) (c : Box) : (cellSlots r c).Nodup := by
  unfold cellSlots
  apply nodup_flatMap_of
  · refine (List.pairwise_lt_range' (s := r) (n := c.a.rowspan)).imp ?_
    intro a b h p hp q hq e
    obtain ⟨x1, _, rfl⟩ := List.mem_map.mp hp
    obtain ⟨x2, _, rfl⟩ := List.mem_map.mp hq
    injection e with e1 _
    omega
  · intro y _; exact nodup_map_pair_left y _ _

theorem count_cellSlots (r : Nat) (c : Box) (y x : Nat) :
    List.count (y, x) (cellSlots r c) =
      if (r ≤ y ∧ y < r + c.a.rowspan) ∧ (c.a.gridX ≤ x ∧ x < c.a.gridX + c.a.colspan) then 1 else 0 := by
  rw [(nodup_cellSlots r c).count]
  simp only [mem_cellSlots]

theorem groupSlotsFrom_ge : ∀ (rows : List Box) (r : Nat) (s : Nat × Nat), s ∈ groupSlotsFrom r rows → r ≤ s.1 := by
  intro rows
  induction rows with
  | nil => intro r s h; cases h
  | cons row rows ih =>
    intro r s h
    simp only [groupSlotsFrom, List.mem_append] at h
    rcases h with h | h
    · obtain ⟨y, x⟩ := s
      simp only [rowSlots, List.mem_flatMap] at h
      obtain ⟨c, _, hc⟩ := h
      exact ((mem_cellSlots r c y x).mp hc).1.1
    · have := ih (r + 1) s h; omega

theorem count_row_first (r : Nat) (cells : List Box) (hs : Sorted cells) (c : Box) (hc : c ∈ cells)
    (h1 : 1 ≤ c.a.rowspan) (h2 : 1 ≤ c.a.colspan) :
    List.count (r, c.a.gridX) (cells.flatMap (cellSlots r)) = 1 := by
  induction cells with
  | nil => cases hc
  | cons d ds ih =>
    unfold Sorted at hs
    rw [List.pairwise_cons] at hs
    rw [List.flatMap_cons, List.count_append]
    rcases List.mem_cons.mp hc with rfl | hc'
    · have hz : List.count (r, c.a.gridX) (ds.flatMap (cellSlots r)) = 0 := by
        rw [List.count_eq_zero]
        intro hm
        obtain ⟨e, he, hme⟩ := List.mem_flatMap.mp hm
        have := hs.1 e he
        have := (mem_cellSlots r e r c.a.gridX).mp hme
        omega
      rw [hz, count_cellSlots, if_pos]
      omega
    · have hz : List.count (r, c.a.gridX) (cellSlots r d) = 0 := by
        rw [count_cellSlots, if_neg]
        have := hs.1 c hc'
        omega
      rw [hz, ih hs.2 hc']

theorem nodup_row_cols (r : Nat) (cells : List Box) (hs : Sorted cells) :
    (cells.flatMap fun c => (List.range' c.a.gridX c.a.colspan).map fun x => (r, x)).Nodup := by
  apply nodup_flatMap_of
  · refine List.Pairwise.imp ?_ hs
    intro a b h p hp q hq e
    obtain ⟨x1, h1, rfl⟩ := List.mem_map.mp hp
    obtain ⟨x2, h2, rfl⟩ := List.mem_map.mp hq
    injection e with _ e2
    rw [List.mem_range'_1] at h1 h2
    omega
  · intro c _; exact nodup_map_pair_left r _ _

/-- pointwise inclusion of occupancy lists -/
def OccSub (f g : List (List Nat)) : Prop :=
  ∀ (k : Nat) (o : List Nat), f[k]? = some o → ∃ o', g[k]? = some o' ∧ ∀ x ∈ o, x ∈ o'

theorem OccSub.refl (f : List (List Nat)) : OccSub f f := fun _ o h => ⟨o, h, fun _ hx => hx⟩

theorem OccSub.trans {f g h : List (List Nat)} (a : OccSub f g) (b : OccSub g h) : OccSub f h := by
  intro k o ho
  obtain ⟨o1, h1, s1⟩ := a k o ho
  obtain ⟨o2, h2, s2⟩ := b k o1 h1
  exact ⟨o2, h2, fun x hx => s2 x (s1 x hx)⟩

theorem markFirst_get : ∀ (n : Nat) (fs : List (List Nat)) (s : List Nat) (k : Nat) (o : List Nat),
    fs[k]? = some o → (markFirst n fs s)[k]? = some (if k < n then o ++ s else o) := by
  intro n
  induction n with
  | zero => intro fs s k o h; cases fs <;> simp [markFirst] at h ⊢ <;> exact h
  | succ n ih =>
    intro fs s k o h
    cases fs with
    | nil => simp at h
    | cons f fs =>
      cases k with
      | zero =>
        simp only [List.getElem?_cons_zero, Option.some.injEq] at h
        subst h
        simp [markFirst]
      | succ k =>
        simp only [List.getElem?_cons_succ] at h
        simp only [markFirst, List.getElem?_cons_succ, ih fs s k o h, Nat.add_lt_add_iff_right]

theorem markFirst_sub (n : Nat) (fs : List (List Nat)) (s : List Nat) : OccSub fs (markFirst n fs s) := by
  intro k o h
  refine ⟨_, markFirst_get n fs s k o h, ?_⟩
  intro x hx
  split
  · exact List.mem_append_left _ hx
  · exact hx

theorem nextFollowing_sub (c : Box) (occThis : List Nat) (following : List (List Nat)) (gx0 : Nat) :
    OccSub following (nextFollowing c occThis following gx0) := by
  unfold nextFollowing
  split
  · exact OccSub.refl _
  · exact markFirst_sub _ _ _

theorem cellsGo_sub (cells : List Box) (occThis : List Nat) (following : List (List Nat)) (gx0 : Nat) :
    OccSub following (cellsGo cells occThis following gx0).2 := by
  induction cells generalizing following gx0 with
  | nil => exact OccSub.refl _
  | cons c cs ih =>
    rw [cellsGo_cons]
    exact (nextFollowing_sub c occThis following gx0).trans (ih _ _)

/-- the columns of a placed cell are entered in the occupancy of the rows it spans below its own -/
theorem nextFollowing_cover (c : Box) (occThis : List Nat) (following : List (List Nat)) (gx0 : Nat)
    (k : Nat) (hk : k + 1 < (placed c occThis following gx0).a.rowspan) :
    ∃ o, (nextFollowing c occThis following gx0)[k]? = some o ∧
      ∀ x ∈ List.range' (placed c occThis following gx0).a.gridX (placed c occThis following gx0).a.colspan, x ∈ o := by
  rw [placed_rowspan] at hk
  rw [placed_gridX, placed_colspan]
  have hb := clipRowspan_bounds c.a.rowspan following.length
  have hklen : k < following.length := by omega
  have hne : (c.a.rowspan == 1) = false := by
    cases h : c.a.rowspan == 1
    · rfl
    · have : c.a.rowspan = 1 := by simpa using h
      rw [this] at hk
      simp [clipRowspan] at hk
  unfold nextFollowing
  rw [hne]
  simp only [Bool.false_eq_true, if_false]
  have hget : following[k]? = some following[k] := List.getElem?_eq_getElem hklen
  refine ⟨_, markFirst_get _ _ _ k _ hget, ?_⟩
  intro x hx
  rw [if_pos (by omega)]
  exact List.mem_append_right _ hx

theorem cellsGo_cover (cells : List Box) (occThis : List Nat) (following : List (List Nat)) (gx0 : Nat) :
    ∀ c ∈ (cellsGo cells occThis following gx0).1, ∀ k, k + 1 < c.a.rowspan →
      ∃ o, (cellsGo cells occThis following gx0).2[k]? = some o ∧
        ∀ x ∈ List.range' c.a.gridX c.a.colspan, x ∈ o := by
  induction cells generalizing following gx0 with
  | nil => intro c hc; cases hc
  | cons c cs ih =>
    intro d hd k hk
    rw [cellsGo_cons] at hd ⊢
    rcases List.mem_cons.mp hd with rfl | hd
    · obtain ⟨o, ho, hx⟩ := nextFollowing_cover c occThis following gx0 k hk
      obtain ⟨o', ho', hs⟩ := cellsGo_sub cs occThis (nextFollowing c occThis following gx0)
        (firstFree occThis gx0 + c.a.colspan) k o ho
      exact ⟨o', ho', fun x h => hs x (hx x h)⟩
    · exact ih _ _ d hd k hk

/-- every slot of `pre` (cells of earlier rows) at or below row `r` is entered in the occupancy
    lists `occs` of row `r` and the rows after it -/
def Cov (pre : List (Nat × Nat)) (r : Nat) (occs : List (List Nat)) : Prop :=
  ∀ y x, (y, x) ∈ pre → r ≤ y → ∃ o, occs[y - r]? = some o ∧ x ∈ o

theorem rowCells_setKids_mem (row : Box) (ks : List Box) (c : Box) (hc : c ∈ rowCells (row.setKids ks)) :
    c ∈ ks ∧ rowCells row = row.kids := by
  unfold rowCells at hc ⊢
  split at hc
  · cases hc
  · rename_i hrun
    exact ⟨hc, if_neg hrun⟩

theorem rowCells_setKids_sorted (row : Box) (ks : List Box) (h : Sorted ks) : Sorted (rowCells (row.setKids ks)) := by
  unfold rowCells
  split
  · exact List.Pairwise.nil
  · exact h

theorem Cov_step (pre : List (Nat × Nat)) (r : Nat) (row : Box) (occThis : List Nat) (following : List (List Nat))
    (h : Cov pre r (occThis :: following)) :
    Cov (pre ++ rowSlots r (row.setKids (cellsGo row.kids occThis following 0).1)) (r + 1)
      (cellsGo row.kids occThis following 0).2 := by
  intro y x hm hy
  rcases List.mem_append.mp hm with hm | hm
  · obtain ⟨o, ho, hx⟩ := h y x hm (by omega)
    have e : y - r = (y - (r + 1)) + 1 := by omega
    rw [e, List.getElem?_cons_succ] at ho
    obtain ⟨o', ho', hs⟩ := cellsGo_sub row.kids occThis following 0 _ o ho
    exact ⟨o', ho', hs x hx⟩
  · simp only [rowSlots, List.mem_flatMap] at hm
    obtain ⟨c, hc, hcs⟩ := hm
    have hc' := (rowCells_setKids_mem _ _ c hc).1
    have hm := (mem_cellSlots r c y x).mp hcs
    obtain ⟨o, ho, hx⟩ := cellsGo_cover row.kids occThis following 0 c hc' (y - (r + 1)) (by omega)
    exact ⟨o, ho, hx x (List.mem_range'_1.mpr hm.2)⟩

theorem Cov_first_free {pre : List (Nat × Nat)} {r : Nat} {occThis : List Nat} {following : List (List Nat)}
    (hcov : Cov pre r (occThis :: following)) (row c : Box)
    (hc : c ∈ rowCells (row.setKids (cellsGo row.kids occThis following 0).1)) : (r, c.a.gridX) ∉ pre := by
  intro hm
  obtain ⟨o, ho, hx⟩ := hcov r c.a.gridX hm (Nat.le_refl _)
  simp only [Nat.sub_self, List.getElem?_cons_zero, Option.some.injEq] at ho
  subst ho
  exact (cellsGo_gridX_free row.kids _ following 0 c (rowCells_setKids_mem _ _ c hc).1).2 hx

theorem firstSlotsOK_go_cons (all : List (Nat × Nat)) (r : Nat) (row : Box) (rows : List Box) :
    firstSlotsOK.go all r (row :: rows) =
      ((rowCells row).all (fun c => c.a.rowspan == 0 || c.a.colspan == 0 || (all.filter (· == (r, c.a.gridX))).length == 1) &&
       nodup ((rowCells row).flatMap fun c => (List.range' c.a.gridX c.a.colspan).map fun x => (r, x)) &&
       firstSlotsOK.go all (r + 1) rows) := rfl

theorem rowsGo_firstSlotsOK_go (rows : List Box) : ∀ (occs : List (List Nat)) (r : Nat) (pre : List (Nat × Nat)) (out : List Box),
    rowsGo rows occs = .ok out → Cov pre r occs →
    firstSlotsOK.go (pre ++ groupSlotsFrom r out) r out = true := by
  induction rows with
  | nil =>
    intro occs r pre out h _
    rw [rowsGo_nil] at h
    cases h
    rfl
  | cons row rows ih =>
    intro occs r pre out h hcov
    obtain ⟨occThis, following, rest, rfl, hr, rfl⟩ := rowsGo_cons_inv h
    have hsorted := rowCells_setKids_sorted row _ (cellsGo_sorted row.kids occThis following 0)
    have hrec := ih _ (r + 1) _ rest hr (Cov_step pre r row occThis following hcov)
    rw [firstSlotsOK_go_cons]
    simp only [groupSlotsFrom, Bool.and_eq_true]
    rw [← List.append_assoc]
    refine ⟨⟨?_, ?_⟩, hrec⟩
    · rw [List.all_eq_true]
      intro c hc
      by_cases h1 : c.a.rowspan = 0
      · simp [h1]
      by_cases h2 : c.a.colspan = 0
      · simp [h2]
      have hcnt : List.count (r, c.a.gridX)
          (pre ++ rowSlots r (row.setKids (cellsGo row.kids occThis following 0).1) ++ groupSlotsFrom (r + 1) rest) = 1 := by
        rw [List.count_append, List.count_append]
        have z1 : List.count (r, c.a.gridX) pre = 0 := List.count_eq_zero.mpr (Cov_first_free hcov row c hc)
        have z2 : List.count (r, c.a.gridX) (groupSlotsFrom (r + 1) rest) = 0 :=
          List.count_eq_zero.mpr fun hm => Nat.not_succ_le_self r (groupSlotsFrom_ge rest (r + 1) _ hm)
        rw [z1, z2]
        simp only [rowSlots, Nat.zero_add, Nat.add_zero]
        exact count_row_first r _ hsorted c hc (by omega) (by omega)
      rw [List.count_eq_length_filter] at hcnt
      rw [hcnt]
      simp
    · rw [nodup_iff]
      exact nodup_row_cols r _ hsorted

/-- for every output of the row loop: no hypothesis on the input is needed -/
theorem rowsGo_firstSlotsOK (rows : List Box) (occs : List (List Nat)) (out : List Box)
    (h : rowsGo rows occs = .ok out) : firstSlotsOK out = true := by
  have := rowsGo_firstSlotsOK_go rows occs 0 [] out h (by intro y x hm; cases hm)
  simpa [firstSlotsOK] using this

theorem groupGo_firstSlotsOK (g g' : Box) (h : groupGo g = .ok g') : firstSlotsOK g'.kids = true := by
  obtain ⟨rows, hr, rfl⟩ := groupGo_inv g g' h
  exact rowsGo_firstSlotsOK _ _ rows hr

theorem nodup_cells_slots (r : Nat) (cells : List Box) (hs : Sorted cells) :
    (cells.flatMap (cellSlots r)).Nodup := by
  apply nodup_flatMap_of
  · refine List.Pairwise.imp ?_ hs
    intro a b h p hp q hq e
    obtain ⟨y1, x1⟩ := p
    obtain ⟨y2, x2⟩ := q
    have h1 := (mem_cellSlots r a y1 x1).mp hp
    have h2 := (mem_cellSlots r b y2 x2).mp hq
    injection e with _ e2
    omega
  · intro c _; exact nodup_cellSlots r c

/-- the slots of `pre` reach down to row `r` column by column (they come from cells of rows above `r`) -/
def Down (pre : List (Nat × Nat)) (r : Nat) : Prop :=
  ∀ y x, (y, x) ∈ pre → ∀ y', r ≤ y' → y' ≤ y → (y', x) ∈ pre

theorem Down_step (pre : List (Nat × Nat)) (r : Nat) (row : Box) (h : Down pre r) :
    Down (pre ++ rowSlots r row) (r + 1) := by
  intro y x hm y' h1 h2
  rcases List.mem_append.mp hm with hm | hm
  · exact List.mem_append_left _ (h y x hm y' (by omega) h2)
  · refine List.mem_append_right _ ?_
    simp only [rowSlots, List.mem_flatMap] at hm ⊢
    obtain ⟨c, hc, hcs⟩ := hm
    refine ⟨c, hc, ?_⟩
    have := (mem_cellSlots r c y x).mp hcs
    exact (mem_cellSlots r c y' x).mpr (by omega)

/-- `P` is any property of the column span, which the loop keeps -/
theorem rowsGo_bound (P : Nat → Prop) (rows : List Box) : ∀ (occs : List (List Nat)) (r : Nat) (out : List Box),
    rowsGo rows occs = .ok out → occs.length = rows.length →
    (∀ row ∈ rows, ∀ c ∈ rowCells row, P c.a.colspan) →
    (∀ s ∈ groupSlotsFrom r out, s.1 < r + out.length) ∧
    (∀ row ∈ out, ∀ c ∈ rowCells row, P c.a.colspan ∧ 1 ≤ c.a.rowspan) := by
  induction rows with
  | nil =>
    intro occs r out h _ _
    rw [rowsGo_nil] at h
    cases h
    refine ⟨?_, ?_⟩ <;> intro s hs <;> cases hs
  | cons row rows ih =>
    intro occs r out h hlen hcs
    obtain ⟨occThis, following, rest, rfl, hr, rfl⟩ := rowsGo_cons_inv h
    have hflen : following.length = rows.length := by simpa using hlen
    have hlen' : (cellsGo row.kids occThis following 0).2.length = rows.length := by
      rw [cellsGo_following_length]; exact hflen
    have hrestlen : rest.length = rows.length := by
      obtain ⟨o, ho, hl⟩ := rowsGo_ok rows _ hlen'
      rw [hr] at ho; cases ho; exact hl
    have hcol1 : ∀ c ∈ rowCells (row.setKids (cellsGo row.kids occThis following 0).1), P c.a.colspan := by
      intro c hc
      obtain ⟨hck, hrow⟩ := rowCells_setKids_mem _ _ c hc
      obtain ⟨d, hd, e⟩ := cellsGo_colspan row.kids occThis following 0 c hck
      rw [e]
      exact hcs row List.mem_cons_self d (hrow ▸ hd)
    obtain ⟨n3, n4⟩ := ih _ (r + 1) rest hr hlen' (fun row' h' => hcs row' (List.mem_cons_of_mem _ h'))
    simp only [groupSlotsFrom]
    refine ⟨?_, ?_⟩
    · intro s hs
      rcases List.mem_append.mp hs with hs | hs
      · obtain ⟨y, x⟩ := s
        simp only [rowSlots, List.mem_flatMap] at hs
        obtain ⟨c, hc, hcs'⟩ := hs
        have hm := (mem_cellSlots r c y x).mp hcs'
        have := (cellsGo_rowspan row.kids occThis following 0 c (rowCells_setKids_mem _ _ c hc).1).2
        simp only [List.length_cons]
        show y < _
        omega
      · have := n3 s hs
        simp only [List.length_cons]
        omega
    · intro row' hrow' c hc
      rcases List.mem_cons.mp hrow' with rfl | hrow'
      · exact ⟨hcol1 c hc, (cellsGo_rowspan row.kids occThis following 0 c (rowCells_setKids_mem _ _ c hc).1).1⟩
      · exact n4 row' hrow' c hc

theorem rowsGo_grid (rows : List Box) : ∀ (occs : List (List Nat)) (r : Nat) (pre : List (Nat × Nat)) (out : List Box),
    rowsGo rows occs = .ok out → occs.length = rows.length → Cov pre r occs → Down pre r →
    (∀ row ∈ rows, ∀ c ∈ rowCells row, c.a.colspan = 1) →
    (groupSlotsFrom r out).Nodup ∧ (∀ s ∈ groupSlotsFrom r out, s ∉ pre) := by
  induction rows with
  | nil =>
    intro occs r pre out h _ _ _ _
    rw [rowsGo_nil] at h
    cases h
    exact ⟨List.nodup_nil, fun s hs => nomatch hs⟩
  | cons row rows ih =>
    intro occs r pre out h hlen hcov hdown hcs
    obtain ⟨occThis, following, rest, rfl, hr, rfl⟩ := rowsGo_cons_inv h
    have hcol1 := fun c hc => ((rowsGo_bound (· = 1) _ _ r _ h hlen hcs).2 _ List.mem_cons_self c hc).1
    have hlen' : (cellsGo row.kids occThis following 0).2.length = rows.length := by
      rw [cellsGo_following_length]; simpa using hlen
    have hsorted := rowCells_setKids_sorted row _ (cellsGo_sorted row.kids occThis following 0)
    obtain ⟨n1, n2⟩ := ih _ (r + 1) _ rest hr hlen' (Cov_step pre r row occThis following hcov)
      (Down_step pre r _ hdown) (fun row' h' => hcs row' (List.mem_cons_of_mem _ h'))
    simp only [groupSlotsFrom]
    refine ⟨?_, ?_⟩
    · rw [List.nodup_append]
      refine ⟨nodup_cells_slots r _ hsorted, n1, ?_⟩
      intro a ha b hb e
      subst e
      exact n2 a hb (List.mem_append_right _ ha)
    · intro s hs
      rcases List.mem_append.mp hs with hs | hs
      · intro hpre
        obtain ⟨y, x⟩ := s
        simp only [rowSlots, List.mem_flatMap] at hs
        obtain ⟨c, hc, hcs'⟩ := hs
        have hm := (mem_cellSlots r c y x).mp hcs'
        have hx : x = c.a.gridX := by have := hcol1 c hc; omega
        subst hx
        exact Cov_first_free hcov row c hc (hdown y _ hpre r (Nat.le_refl _) hm.1.1)
      · intro hpre
        exact n2 s hs (List.mem_append_left _ hpre)

/-- the span clauses that `gridOK` and `gridOKw` share -/
theorem rowsGo_spansOK (rows out : List Box) (h : rowsGo rows (List.replicate rows.length []) = .ok out)
    (hcs : ∀ row ∈ rows, ∀ c ∈ rowCells row, 1 ≤ c.a.colspan) :
    (groupSlotsFrom 0 out).all (fun s => s.1 < out.length) = true ∧
    out.all (fun row => (rowCells row).all (fun c => c.a.colspan ≥ 1 && c.a.rowspan ≥ 1)) = true := by
  obtain ⟨n3, n4⟩ := rowsGo_bound (1 ≤ ·) rows _ 0 out h (by simp) hcs
  simp only [List.all_eq_true, Bool.and_eq_true, ge_iff_le, decide_eq_true_eq]
  exact ⟨fun s hs => by simpa using n3 s hs, fun row hrow c hc => n4 row hrow c hc⟩

theorem rowsGo_gridOK (rows out : List Box)
    (h : rowsGo rows (List.replicate rows.length []) = .ok out)
    (hcs : ∀ row ∈ rows, ∀ c ∈ rowCells row, c.a.colspan = 1) :
    gridOK .tableRowGroup out = true := by
  obtain ⟨n1, _⟩ := rowsGo_grid rows _ 0 [] out h (by simp)
    (by intro y x hm; cases hm) (by intro y x hm; cases hm) hcs
  obtain ⟨s1, s2⟩ := rowsGo_spansOK rows out h fun row hr c hc => by rw [hcs row hr c hc]; exact Nat.le_refl 1
  rw [gridOK, (nodup_iff _).mpr n1, s1, s2]; rfl

theorem groupGo_gridOK (g g' : Box) (h : groupGo g = .ok g')
    (hcs : ∀ row ∈ g.kids, ∀ c ∈ rowCells row, c.a.colspan = 1) :
    gridOK g'.ty g'.kids = true := by
  obtain ⟨rows, hr, rfl⟩ := groupGo_inv g g' h
  by_cases hty : g.ty = .tableRowGroup
  · have e : (g.setKids rows).ty = .tableRowGroup := hty
    rw [e]
    exact rowsGo_gridOK g.kids rows hr hcs
  · have e : (g.setKids rows).ty = g.ty := rfl
    simp [gridOK, e, hty]

/-
  Not attempted: the converse direction of the occupancy invariant (every entry of `occs` comes from a
  cell of an earlier row), which would be needed to show GridX is the *least* column not covered by an
  earlier cell.
-/
end WR.C09
