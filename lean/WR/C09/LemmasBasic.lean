import WR.C09.Shape2
/-
  C09 — what every pass needs: results in `R`, facts about the finite type `Ty`, the projections of the
  box constructors, the traversals `allN` / `allW`, and the clauses of `tableKidsOK` / `postTable` as
  implications.  Core Lean only.
-/
namespace WR.C09

/-- a Bool implication as it is written in the clauses of the spec -/
theorem bimp_iff {a b : Bool} : (!a || b) = true ↔ (a = true → b = true) := by
  cases a <;> cases b <;> decide

theorem bind_ok_inv {α β : Type} {x : R α} {g : α → R β} {r : β} (h : (x >>= g) = .ok r) :
    ∃ v, x = .ok v ∧ g v = .ok r := by
  cases x with
  | error e => cases h
  | ok v => exact ⟨v, rfl, h⟩

theorem ite_bind_R {α β : Type} (c : Prop) [Decidable c] (x y : R α) (k : α → R β) :
    ((if c then x else y) >>= k) = if c then x >>= k else y >>= k := by
  split <;> rfl

/-- `x` returns a value satisfying `P`; a failure counts as `E`.  With `E = False` this says that `x`
    succeeds and `P` holds of its value, with `E = True` that `P` holds whenever `x` succeeds; the lemmas
    about the loops of the table pass are proved once for both readings. -/
def okAnd {α : Type} (E : Prop) (P : α → Prop) : R α → Prop
  | .ok v => P v
  | .error _ => E

theorem okAnd_bind {α β : Type} {E : Prop} {P : α → Prop} {Q : β → Prop} {x : R α} {g : α → R β}
    (hx : okAnd E P x) (hg : ∀ v, P v → okAnd E Q (g v)) : okAnd E Q (x >>= g) := by
  cases x with
  | error e => exact hx
  | ok v => exact hg v hx

theorem okAnd_mono {α : Type} {E : Prop} {P Q : α → Prop} {x : R α} (h : ∀ v, P v → Q v)
    (hx : okAnd E P x) : okAnd E Q x := by
  cases x with
  | error e => exact hx
  | ok v => exact h v hx

theorem okAnd_false {α : Type} {P : α → Prop} {x : R α} : okAnd False P x ↔ ∃ v, x = .ok v ∧ P v := by
  cases x with
  | error e => exact ⟨False.elim, fun h => h.elim fun _ h => nomatch h.1⟩
  | ok v => exact ⟨fun h => ⟨v, rfl, h⟩, fun h => h.elim fun _ h => by cases h.1; exact h.2⟩

theorem okAnd_true {α : Type} {P : α → Prop} {x : R α} : okAnd True P x ↔ ∀ v, x = .ok v → P v := by
  cases x with
  | error e => exact ⟨(fun _ v h => by cases h), fun _ => trivial⟩
  | ok v => exact ⟨fun h _ e => by cases e; exact h, fun h => h v rfl⟩

theorem isTable_cases (t : Ty) (h : isTable t = true) : t = .table ∨ t = .inlineTable := by
  revert h; cases t <;> decide

theorem isInProperParents_table (t c : Ty) (h : isTable t = true) (hc : properTableChild c = true) :
    isInProperParents t c = true := by
  rcases isTable_cases t h with h | h <;> subst h <;> revert hc <;> cases c <;> decide

theorem properTableChild_unclassified (t : Ty) (h1 : (t == .tableColumn || t == .tableColumnGroup) = false)
    (h2 : (t == .tableRow || t == .tableRowGroup) = false) (h3 : (t == .tableCaption) = false) :
    properTableChild t = false := by
  revert h1 h2 h3; cases t <;> decide

theorem properTableChild_ne_cell (c : Ty) (hc : properTableChild c = true) : c ≠ .tableCell := by
  intro e; subst e; exact nomatch hc

theorem rawTy_not_line {t : Ty} (h : rawTy t = true) : (t == .line) = false := by
  revert h; cases t <;> decide

theorem blockLevel_not_inline {t : Ty} (h : isBlockLevel t = true) :
    (t == .line) = false ∧ (t == .inline) = false ∧ isInlineLevel t = false := by
  revert h; cases t <;> decide

theorem blockContainer_plain {t : Ty} (h : isBlockContainer t = true) :
    isParent t = true ∧ (t == .line) = false ∧ (t == .inline) = false ∧ isTable t = false ∧
    (t == .tableRowGroup) = false ∧ (t == .tableRow) = false ∧ (t == .tableColumnGroup) = false ∧
    (t == .tableColumn) = false ∧ isFlexContainer t = false ∧ isGridContainer t = false := by
  revert h; cases t <;> decide

theorem wrapperKid_blockLevel {t : Ty} (h : t = .tableCaption ∨ isTable t = true) :
    (t == .text) = false ∧ isBlockLevel t = true := by
  revert h; cases t <;> decide

theorem flex_not_grid (ty : Ty) (h : isFlexContainer ty = true) : isGridContainer ty = false := by
  revert h; cases ty <;> decide

theorem grid_not_flex (ty : Ty) (h : isGridContainer ty = true) : isFlexContainer ty = false := by
  revert h; cases ty <;> decide

theorem flexGrid_cases (t : Ty) (h : (isFlexContainer t || isGridContainer t) = true) :
    t = .flex ∨ t = .inlineFlex ∨ t = .grid ∨ t = .inlineGrid := by
  revert h; cases t <;> decide

theorem flexGrid_plain (ty : Ty) (hc : (isFlexContainer ty || isGridContainer ty) = true) :
    isParent ty = true ∧ (ty == .tableColumn) = false ∧ (ty == .block || ty == .inlineBlock) = false ∧
    isTable ty = false ∧ (ty == .tableRowGroup) = false ∧ (ty == .tableRow) = false ∧
    (ty == .tableColumnGroup) = false := by
  rcases flexGrid_cases ty hc with rfl | rfl | rfl | rfl <;> decide

theorem intAttr_pos (p : Option Int) : 1 ≤ intAttr p 1 := by
  unfold intAttr
  cases p with
  | none => exact Nat.le_refl _
  | some v =>
    dsimp only
    split
    · exact Nat.le_refl _
    · omega

theorem gridOKw_of_ne (ty : Ty) (kids : List Box) (h : ty ≠ .tableRowGroup) : gridOKw ty kids = true := by
  unfold gridOKw
  have : (ty == Ty.tableRowGroup) = false := by simpa using h
  rw [this]; rfl

theorem tb_anon_ty (t : Ty) (a : Attrs) (ks : List Box) : (anon t a ks).ty = t := rfl
theorem tb_anon_a (t : Ty) (a : Attrs) (ks : List Box) : (anon t a ks).a = anonAttrs t a := rfl
theorem tb_setKids_ty (b : Box) (k : List Box) : (b.setKids k).ty = b.ty := rfl
theorem setA_ty (b : Box) (a : Attrs) : (b.setA a).ty = b.ty := rfl
theorem setA_self (c : Box) : c.setA c.a = c := by cases c; rfl
theorem lineBox_ty (pa : Attrs) (ks : List Box) : (lineBox pa ks).ty = .line := rfl
theorem anonBlock_ty (pa : Attrs) (ks : List Box) : (anonBlock pa ks).ty = .block := rfl

section
variable {p : Ty → Attrs → List Box → Bool} {ty : Ty} {a : Attrs} {kids cols : List Box}

theorem allN_mk : allN p (.mk ty a kids cols) = (a.running || (p ty a kids && allNList p kids)) := by
  rw [allN]

theorem allN_running (hr : a.running = true) : allN p (.mk ty a kids cols) = true := by
  rw [allN_mk, hr]; rfl

theorem allN_intro (h1 : p ty a kids = true) (h2 : allNList p kids = true) :
    allN p (.mk ty a kids cols) = true := by
  rw [allN_mk, h1, h2]; exact Bool.or_true _

theorem allN_elim (hr : a.running = false) (h : allN p (.mk ty a kids cols) = true) :
    p ty a kids = true ∧ allNList p kids = true := by
  rw [allN_mk, hr, Bool.false_or, Bool.and_eq_true] at h
  exact h

theorem allNList_iff {l : List Box} : allNList p l = true ↔ ∀ x ∈ l, allN p x = true := by
  induction l with
  | nil => rw [allNList]; exact ⟨(fun _ x hx => nomatch hx), fun _ => rfl⟩
  | cons k ks ih => rw [allNList, Bool.and_eq_true, ih, List.forall_mem_cons]

end

mutual
  theorem allN_mono (p q : Ty → Attrs → List Box → Bool) (hpq : ∀ ty a kids, p ty a kids = true → q ty a kids = true) :
      ∀ b : Box, allN p b = true → allN q b = true
    | .mk ty a kids cols, h => by
      cases hr : a.running with
      | true => exact allN_running hr
      | false => exact allN_intro (hpq _ _ _ (allN_elim hr h).1) (allNList_mono p q hpq kids (allN_elim hr h).2)
  theorem allNList_mono (p q : Ty → Attrs → List Box → Bool) (hpq : ∀ ty a kids, p ty a kids = true → q ty a kids = true) :
      ∀ ks : List Box, allNList p ks = true → allNList q ks = true
    | [], _ => by rw [allNList]
    | k :: ks, h => by
      rw [allNList, Bool.and_eq_true] at h ⊢
      exact ⟨allN_mono p q hpq k h.1, allNList_mono p q hpq ks h.2⟩
end

theorem allNList_append (p : Ty → Attrs → List Box → Bool) (xs ys : List Box) :
    allNList p (xs ++ ys) = (allNList p xs && allNList p ys) := by
  induction xs with
  | nil => simp [allNList]
  | cons x xs ih => simp [allNList, ih, Bool.and_assoc]

section
variable {p : Ty → Attrs → List Box → List Box → Bool} {ty : Ty} {a : Attrs} {kids cols : List Box}

theorem allW_mk :
    allW p (.mk ty a kids cols) = (a.running || (p ty a kids cols && allWList p kids && allWList p cols)) := by
  rw [allW]

theorem allW_eq (b : Box) :
    allW p b = (b.a.running || (p b.ty b.a b.kids b.cols && allWList p b.kids && allWList p b.cols)) := by
  cases b; rw [allW]; rfl

theorem allW_running (hr : a.running = true) : allW p (.mk ty a kids cols) = true := by
  rw [allW_mk, hr]; rfl

theorem allW_intro (h1 : p ty a kids cols = true) (h2 : allWList p kids = true) (h3 : allWList p cols = true) :
    allW p (.mk ty a kids cols) = true := by
  rw [allW_mk, h1, h2, h3]; exact Bool.or_true _

theorem allW_elim (hr : a.running = false) (h : allW p (.mk ty a kids cols) = true) :
    p ty a kids cols = true ∧ allWList p kids = true ∧ allWList p cols = true := by
  rw [allW_mk, hr, Bool.false_or, Bool.and_eq_true, Bool.and_eq_true] at h
  exact ⟨h.1.1, h.1.2, h.2⟩

theorem allWList_nil : allWList p [] = true := by
  rw [allWList]

theorem allWList_cons (k : Box) (ks : List Box) : allWList p (k :: ks) = (allW p k && allWList p ks) := by
  rw [allWList]

theorem allWList_iff {l : List Box} : allWList p l = true ↔ ∀ x ∈ l, allW p x = true := by
  induction l with
  | nil => rw [allWList_nil]; exact ⟨(fun _ x hx => nomatch hx), fun _ => rfl⟩
  | cons k ks ih => rw [allWList_cons, Bool.and_eq_true, ih, List.forall_mem_cons]

end

mutual
  theorem allW_mono (p q : Ty → Attrs → List Box → List Box → Bool)
      (hpq : ∀ ty a kids cols, p ty a kids cols = true → q ty a kids cols = true) :
      ∀ b : Box, allW p b = true → allW q b = true
    | .mk ty a kids cols, h => by
      cases hr : a.running with
      | true => exact allW_running hr
      | false =>
        obtain ⟨h1, h2, h3⟩ := allW_elim hr h
        exact allW_intro (hpq _ _ _ _ h1) (allWList_mono p q hpq kids h2) (allWList_mono p q hpq cols h3)
  theorem allWList_mono (p q : Ty → Attrs → List Box → List Box → Bool)
      (hpq : ∀ ty a kids cols, p ty a kids cols = true → q ty a kids cols = true) :
      ∀ ks : List Box, allWList p ks = true → allWList q ks = true
    | [], _ => allWList_nil
    | k :: ks, h => by
      rw [allWList_cons, Bool.and_eq_true] at h ⊢
      exact ⟨allW_mono p q hpq k h.1, allWList_mono p q hpq ks h.2⟩
end

theorem allW_setA (p : Ty → Attrs → List Box → List Box → Bool)
    (hp : ∀ ty (a a' : Attrs) ks cs, a'.tw = a.tw → p ty a' ks cs = p ty a ks cs) :
    ∀ (k : Box) (a' : Attrs), a'.running = k.a.running → a'.tw = k.a.tw → allW p (k.setA a') = allW p k
  | .mk ty a kids cols, a', (h : a'.running = a.running), (h2 : a'.tw = a.tw) => by
    show allW p (.mk ty a' kids cols) = _
    rw [allW_mk, allW_mk, h, hp ty a a' kids cols h2]

mutual
  theorem allN_of_allW (p : Ty → Attrs → List Box → Bool) (q : Ty → Attrs → List Box → List Box → Bool)
      (hpq : ∀ ty a k c, q ty a k c = true → p ty a k = true) :
      (b : Box) → allW q b = true → allN p b = true
    | .mk ty a kids cols, h => by
      cases hr : a.running with
      | true => exact allN_running hr
      | false =>
        obtain ⟨h1, h2, _⟩ := allW_elim hr h
        exact allN_intro (hpq _ _ _ _ h1) (pi_allNList_of_allW p q hpq kids h2)
  theorem pi_allNList_of_allW (p : Ty → Attrs → List Box → Bool) (q : Ty → Attrs → List Box → List Box → Bool)
      (hpq : ∀ ty a k c, q ty a k c = true → p ty a k = true) :
      (ks : List Box) → allWList q ks = true → allNList p ks = true
    | [], _ => by rw [allNList]
    | k :: ks, h => by
      rw [allWList, Bool.and_eq_true] at h
      rw [allNList, allN_of_allW p q hpq k h.1, pi_allNList_of_allW p q hpq ks h.2]; rfl
end

theorem tableKidsOK_iff {ty : Ty} {a : Attrs} {kids cols : List Box} : tableKidsOK ty a kids cols = true ↔
    (a.tw = true → (ty = .block ∨ ty = .inlineBlock) ∧
      (∀ x ∈ kids, x.ty = .tableCaption ∨ isTable x.ty = true) ∧
      (kids.filter (fun c => isTable c.ty)).length = 1) ∧
    (isTable ty = true → (∀ x ∈ kids, x.ty = .tableRowGroup) ∧
      ∀ g ∈ cols, g.ty = .tableColumnGroup ∧ (g.a.running = true ∨ ∀ x ∈ g.kids, x.ty = .tableColumn)) ∧
    (ty = .tableRowGroup → ∀ x ∈ kids, x.ty = .tableRow) ∧
    (ty = .tableRow → ∀ x ∈ kids, x.ty = .tableCell) ∧
    (ty = .tableColumnGroup → ∀ x ∈ kids, x.ty = .tableColumn) ∧
    (isTable ty = true ∨ cols = []) := by
  simp only [tableKidsOK, Bool.and_eq_true, bimp_iff]
  simp only [Bool.or_eq_true, List.all_eq_true, beq_iff_eq, List.isEmpty_iff, Bool.and_eq_true, and_assoc]

theorem postTable_iff {ty : Ty} {a : Attrs} {kids cols : List Box} : postTable ty a kids cols = true ↔
    rawTy ty = true ∧ (isParent ty || kids.isEmpty) = true ∧ kids.all (fun c => rawTy c.ty) = true ∧
    kids.all (childAllowed ty a) = true ∧ tableKidsOK ty a kids cols = true ∧ gridOKw ty kids = true ∧
    (!(ty == .tableColumn) || kids.isEmpty) = true := by
  simp only [postTable, Bool.and_eq_true, and_assoc]

/-! ### what the clauses read of the children and of the box's own attributes -/

theorem length_of_map_eq {α β : Type} (f : α → β) {ks' ks : List α} (h : ks'.map f = ks.map f) :
    ks'.length = ks.length := by
  have := congrArg List.length h
  rwa [List.length_map, List.length_map] at this

theorem isEmpty_of_map_eq {α β : Type} (f : α → β) {ks' ks : List α} (h : ks'.map f = ks.map f) :
    ks'.isEmpty = ks.isEmpty := by
  cases ks' <;> cases ks <;> first | rfl | exact nomatch h

theorem all_map_congr {β : Type} (g : Box → β) (q : β → Bool) {ks' ks : List Box} (h : ks'.map g = ks.map g) :
    ks'.all (fun c => q (g c)) = ks.all (fun c => q (g c)) := by
  have e : ∀ l : List Box, l.all (fun c => q (g c)) = (l.map g).all q := fun l => by rw [List.all_map]; rfl
  rw [e, e, h]

theorem filter_map_congr {β : Type} (g : Box → β) (q : β → Bool) {ks' ks : List Box} (h : ks'.map g = ks.map g) :
    (ks'.filter (fun c => q (g c))).length = (ks.filter (fun c => q (g c))).length := by
  have e : ∀ l : List Box, (l.filter (fun c => q (g c))).length = ((l.map g).filter q).length := fun l => by
    rw [List.filter_map, List.length_map]; rfl
  rw [e, e, h]

/-- `childAllowed` on what it reads: the type and wrapper flag of the parent, the type and running flag of
    the child -/
def pt_ca (p : Ty) (tw : Bool) (c : Ty) (run : Bool) : Bool :=
  match c with
  | .line => isBlockContainer p
  | .table | .inlineTable => tw || run
  | .tableCaption => tw
  | .tableRowGroup => isTable p
  | .tableRow => p == .tableRowGroup
  | .tableCell => p == .tableRow
  | .tableColumn => p == .tableColumnGroup
  | .tableColumnGroup => false
  | _ => true

theorem pt_ca_eq (p : Ty) (pa : Attrs) (c : Box) : childAllowed p pa c = pt_ca p pa.tw c.ty c.a.running := by
  unfold childAllowed pt_ca
  cases c.ty <;> rfl

theorem tableKidsOK_congr (ty : Ty) (a : Attrs) {ks' ks : List Box} (cols : List Box)
    (h : ks'.map Box.ty = ks.map Box.ty) : tableKidsOK ty a ks' cols = tableKidsOK ty a ks cols := by
  unfold tableKidsOK
  rw [all_map_congr Box.ty (fun t => t == .tableCaption || isTable t) h, filter_map_congr Box.ty isTable h,
    all_map_congr Box.ty (· == .tableRowGroup) h, all_map_congr Box.ty (· == .tableRow) h,
    all_map_congr Box.ty (· == .tableCell) h, all_map_congr Box.ty (· == .tableColumn) h]

theorem postTable_congr (ty : Ty) (a : Attrs) {ks' ks : List Box} (cols : List Box)
    (h : ks'.map (fun c => (c.ty, c.a.running)) = ks.map (fun c => (c.ty, c.a.running)))
    (hg : gridOKw ty ks' = gridOKw ty ks) : postTable ty a ks' cols = postTable ty a ks cols := by
  have hT : ks'.map Box.ty = ks.map Box.ty := by
    have := congrArg (List.map Prod.fst) h
    rwa [List.map_map, List.map_map] at this
  have hc : childAllowed ty a = fun c => pt_ca ty a.tw c.ty c.a.running := funext (pt_ca_eq ty a)
  unfold postTable
  rw [hg, isEmpty_of_map_eq _ h, all_map_congr Box.ty rawTy hT, tableKidsOK_congr ty a cols hT, hc,
    all_map_congr (fun c => (c.ty, c.a.running)) (fun p => pt_ca ty a.tw p.1 p.2) h]

theorem postTable_attrs (ty : Ty) {a' a : Attrs} (ks cols : List Box) (h : a'.tw = a.tw) :
    postTable ty a' ks cols = postTable ty a ks cols := by
  have hc : childAllowed ty a' = childAllowed ty a := by
    funext c; rw [pt_ca_eq, pt_ca_eq, h]
  unfold postTable tableKidsOK
  rw [hc, h]

end WR.C09
