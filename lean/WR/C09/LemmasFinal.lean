import WR.C09.LemmasPostTable
import WR.C09.LemmasPostGrid
import WR.C09.LemmasPostInline
/-
  C09 — the composition of the five passes on a raw tree.
-/
namespace WR.C09

theorem createAnonymous_of_stages (b t i o : Box) (h1 : anonTable b = .ok t)
    (h2 : inlineInBlock (gridBoxes (flexBoxes t)) = .ok i) (h3 : blockInInline i = .ok o) :
    createAnonymousBox b = .ok o := by
  simp [createAnonymousBox, createAnonymousStages, h1, h2, h3, bind, Except.bind, pure, Except.pure]

theorem root_after_table (b r : Box) (h : anonTable b = .ok r) (hb : isBlockLevel b.ty = true)
    (hi : b.ty ≠ .inlineTable) (hr : b.a.running = false) :
    isBlockLevel r.ty = true ∧ isTable r.ty = false := by
  obtain ⟨r', h', h1, h2⟩ := anonTable_root b
  rw [h] at h'; injection h' with h'; subst h'
  cases ht : isTable b.ty with
  | false =>
    rw [h1 ht]; exact ⟨hb, ht⟩
  | true =>
    obtain ⟨_, _, wa, capT, capB, a', rg, cg, hshape, _⟩ := h2 ht hr
    have hne : (b.ty == Ty.inlineTable) = false := Bool.eq_false_iff.2 fun e => hi (eq_of_beq e)
    rw [hshape]
    show isBlockLevel (if (b.ty == Ty.inlineTable) = true then Ty.inlineBlock else Ty.block) = true ∧
         isTable (if (b.ty == Ty.inlineTable) = true then Ty.inlineBlock else Ty.block) = false
    rw [hne]
    decide

theorem createAnonymous_wfw (b : Box) (h : allW pt_rawOK b = true) (hb : isBlockLevel b.ty = true)
    (hi : b.ty ≠ .inlineTable) (hr : b.a.running = false) :
    ∃ r, createAnonymousBox b = .ok r ∧ wfw r = true ∧ isBlockLevel r.ty = true ∧ isTable r.ty = false := by
  obtain ⟨t, ht, hpt, _, _⟩ := anonTable_postTable_blockRoot b h hb
  obtain ⟨hroot1, hroot2⟩ := root_after_table b t ht hb hi hr
  obtain ⟨hpg, hty, _⟩ := flexGrid_postGrid t hpt
  obtain ⟨i, o, hi1, ho1, hoty, _, hok⟩ := inlinePasses_wfw_blockLevel _ hpg (by rw [hty]; exact hroot1)
  refine ⟨o, createAnonymous_of_stages b t i o ht hi1 ho1, hok, ?_, ?_⟩
  · rw [hoty, hty]; exact hroot1
  · rw [hoty, hty]; exact hroot2

end WR.C09
