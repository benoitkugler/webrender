/-
  C20 — token-level round trips: the text serialize.go writes for a token of each leaf class is
  turned back into that very token by one step of the C06 tokenizer.
-/
import WR.C20.RoundTrip
import WR.C20.Numbers
namespace WR.C20
open WR.C06 List
variable {q : Quirks}

/-! ## what may follow a token

The token-level lemmas ask of the text `r` after a token only what their consumer needs: `stopsName r`
after names, `NumStop r` (with `NoDigitNext`) after numbers, `SafeNext r` after an identifier so that
it reads neither as a unicode-range nor as `-->`, `NoWsNext r` after white space.  `SafeFollow r`
implies all of them but the last (`safe_facts`); sequences of atoms use it, through `Fol` in
WR.C20.Adjacent. -/

/-- the code point that follows is neither `+` nor `>` (or nothing follows) -/
def SafeNext (r : Str) : Prop := ∀ c r', r = c :: r' → c ≠ '+' ∧ c ≠ '>'

/-- nothing, or a code point that is not white space -/
def NoWsNext : Str → Prop
  | [] => True
  | c :: _ => isWs c = false

/-- a code point at which every atom but white space stops: white space, or one of `"` `@` `#` `/` `;` -/
def SafeHead (c : Char) : Prop := isWs c = true ∨ c = '"' ∨ c = '@' ∨ c = '#' ∨ c = '/' ∨ c = ';'

/-- text after which no atom can be absorbed: nothing, or text starting with a `SafeHead` -/
def SafeFollow : Str → Prop
  | [] => True
  | c :: _ => SafeHead c

theorem safe_facts (r : Str) (h : SafeFollow r) :
    stopsName r ∧ (∀ r', r ≠ '(' :: r') ∧ SafeNext r ∧ NumStop r ∧ startsIdent r = false ∧ (∀ t, r ≠ '%' :: t) := by
  cases r with
  | nil =>
    refine ⟨trivial, ?_, ?_, ⟨Or.inl rfl, ?_, by simp [takeExp]⟩, by simp [startsIdent], ?_⟩
    · intro r' h; cases h
    · intro c r' h; cases h
    · intro t h; cases h
    · intro t h; cases h
  | cons c t =>
    have key : isNameChar c = false ∧ c ≠ '\\' ∧ c ≠ '(' ∧ c ≠ '+' ∧ c ≠ '>' ∧ isDigit c = false ∧ c ≠ '.' ∧
        c ≠ 'e' ∧ c ≠ 'E' ∧ isNameStart c = false ∧ c ≠ '-' ∧ c ≠ '%' := by
      rcases h with hc | rfl | rfl | rfl | rfl | rfl
      · simp [isWs] at hc
        rcases hc with (rfl | rfl) | rfl <;> decide
      all_goals decide
    obtain ⟨k1, k2, k3, k4, k5, k6, k7, k8, k9, k10, k11, k12⟩ := key
    refine ⟨⟨k1, fun h => k2 h.1⟩, ?_, ?_, ⟨Or.inr ⟨c, t, rfl, k6⟩, ?_, takeExp_not_e c t k8 k9⟩, ?_, ?_⟩
    · intro r' h; cases h; exact k3 rfl
    · intro c' r' h; cases h; exact ⟨k4, k5⟩
    · intro t' h; cases h; exact k7 rfl
    · simp [startsIdent, k10, k11, k2]
    · intro t' h; cases h; exact k12 rfl

/-! ## the tests `step` makes before it looks at the first code point alone -/

theorem startsURange_head (h : Char) (tl : Str) (h1 : h ≠ 'u') (h2 : h ≠ 'U') : startsURange (h :: tl) = false := by
  unfold startsURange; split <;> simp_all

theorem take3_head (h : Char) (tl : Str) (h1 : h ≠ '-') : ((h :: tl).take 3 == ['-', '-', '>']) = false := by
  cases tl with
  | nil => simp
  | cons a tl => cases tl <;> simp [h1]

theorem take3_second (a b : Char) (tl : Str) (hb : b ≠ '-') : ((a :: b :: tl).take 3 == ['-', '-', '>']) = false := by
  cases tl <;> simp [hb]

theorem startsIdent_not_ws (h : Char) (tl : Str) (hs : startsIdent (h :: tl) = true) : isWs h = false := by
  by_cases hw : isWs h = true
  · exfalso
    simp [isWs] at hw
    rcases hw with (rfl | rfl) | rfl <;> simp [startsIdent, isNameStart, isLetter] at hs
  · simpa using hw

theorem step_identLike (total : Nat) (inp : Str) (h1 : startsIdent inp = true)
    (hur : startsURange inp = false) (hcdc : (inp.take 3 == ['-', '-', '>']) = false) :
    step q total inp = consumeIdentLike q (total - inp.length) inp := by
  cases inp with
  | nil => simp [startsIdent] at h1
  | cons h tl =>
    unfold step
    simp only []
    rw [if_neg (by simp [startsIdent_not_ws h tl h1]), hur, hcdc]
    simp only [Bool.false_eq_true, if_false]
    rw [if_pos h1]

/-! ## strings, identifiers, function names, urls -/

theorem string_step (total : Nat) (s r : Str) :
    step q total ('"' :: serializeString s ++ '"' :: r)
      = .leaf [Tok.str (total - ('"' :: serializeString s ++ '"' :: r).length) s false] r := by
  have hrt := string_rt s r _ (Nat.le_refl (serializeString s ++ '"' :: r).length)
  simp only [List.cons_append]
  rw [step_eq_stepPunct q total '"' _ (by decide) (by decide) (by decide) (by decide) (by decide)]
  unfold stepPunct
  rw [if_neg (by decide), if_neg (by decide), if_neg (by decide), if_neg (by decide), if_neg (by decide),
    if_neg (by decide), if_pos (by decide)]
  simp only [hrt]

theorem name_text_head (rest r : Str) (hr : SafeNext r) :
    serializeName rest ++ r = [] ∨ ∃ h t, serializeName rest ++ r = h :: t ∧ h ≠ '+' ∧ h ≠ '>' := by
  cases rest with
  | nil =>
    cases r with
    | nil => left; simp [serializeName]
    | cons c r' => exact .inr ⟨c, r', by simp [serializeName], hr c r' rfl⟩
  | cons d rest' =>
    obtain ⟨a, tl, ha, hne⟩ := (escName_written d).head_ne
    exact .inr ⟨a, tl ++ (serializeName rest' ++ r), by simp [serializeName, ha],
      hne '+' (by decide) (by decide), hne '>' (by decide) (by decide)⟩

theorem ident_no_urange (s t r : Str) (hs : serializeIdentifier s = some t) (hr : SafeNext r) :
    startsURange (t ++ r) = false := by
  rcases serializeIdentifier_cases hs with ⟨_, rfl⟩ | ⟨_, _, rfl⟩ | ⟨_, _, _, rfl⟩ | ⟨c, rest, _, rfl⟩
  · exact startsURange_head _ _ (by decide) (by decide)
  · exact startsURange_head _ _ (by decide) (by decide)
  · exact startsURange_head _ _ (by decide) (by decide)
  · rcases escIdentStart_written c with ⟨he, _⟩ | ⟨tail, he, _⟩
    · rw [he]
      simp only [List.cons_append, List.nil_append]
      rcases name_text_head rest r hr with h | ⟨h, tl, hh, h1, _⟩
      · rw [h]; simp [startsURange]
      · rw [hh]; simp [startsURange, h1]
    · rw [he]; exact startsURange_head _ _ (by decide) (by decide)

theorem ident_no_cdc (s t r : Str) (hs : serializeIdentifier s = some t) (hr : SafeNext r) :
    ((t ++ r).take 3 == ['-', '-', '>']) = false := by
  rcases serializeIdentifier_cases hs with ⟨_, rfl⟩ | ⟨bs, _, rfl⟩ | ⟨b, bs, _, rfl⟩ | ⟨c, rest, _, rfl⟩
  · exact take3_head _ _ (by decide)
  · simp only [List.cons_append]
    rcases name_text_head bs r hr with h | ⟨h, tl, hh, _, h2⟩
    · rw [h]; simp
    · rw [hh]; simp [h2]
  · obtain ⟨a, tl, ha, hne⟩ := (escIdentStart_written b).head_ne
    rw [ha]
    exact take3_second _ a _ (hne '-' (by decide) (by decide))
  · obtain ⟨a, tl, ha, hne⟩ := (escIdentStart_written c).head_ne
    rw [ha]
    exact take3_head a _ (hne '-' (by decide) (by decide))

theorem ident_step (total : Nat) (s t r : Str) (hs : serializeIdentifier s = some t) (hr : stopsName r)
    (hparen : ∀ r', r ≠ '(' :: r')
    (hur : startsURange (t ++ r) = false) (hcdc : ((t ++ r).take 3 == ['-', '-', '>']) = false) :
    step q total (t ++ r) = .leaf [Tok.ident (total - (t ++ r).length) s] r := by
  obtain ⟨h1, h2⟩ := ident_rt s t r hs hr
  rw [step_identLike total _ h1 hur hcdc, consumeIdentLike]
  simp only [h2 _ (Nat.le_refl _)]

theorem function_step (total : Nat) (s t rest : Str) (hs : serializeIdentifier s = some t)
    (hu : isUrlName s = false) :
    step q total (t ++ '(' :: rest) = .openF s rest := by
  have hr : stopsName ('(' :: rest) := ⟨by decide, by simp⟩
  have hsafe : SafeNext ('(' :: rest) := by
    intro c r' h; cases h; exact ⟨by decide, by decide⟩
  obtain ⟨h1, h2⟩ := ident_rt s t ('(' :: rest) hs hr
  rw [step_identLike total _ h1 (ident_no_urange s t _ hs hsafe) (ident_no_cdc s t _ hs hsafe), consumeIdentLike]
  simp only [h2 _ (Nat.le_refl _), hu, Bool.false_and, Bool.false_eq_true, if_false]

theorem url_step (total : Nat) (s r : Str) (h0 : ∀ c ∈ s, c ≠ '\x00') :
    step q total ('u' :: 'r' :: 'l' :: '(' :: (serializeUrl s ++ ')' :: r))
      = .leaf [Tok.url (total - ('u' :: 'r' :: 'l' :: '(' :: (serializeUrl s ++ ')' :: r)).length) s false] r := by
  obtain ⟨h, t, hht, hws, hq1, hq2⟩ := url_head s r h0
  have hrt := url_rt q (total - ('u' :: 'r' :: 'l' :: '(' :: (serializeUrl s ++ ')' :: r)).length) s r h0
  have htw : WR.C06.takeWhile isWs (serializeUrl s ++ ')' :: r) = ([], serializeUrl s ++ ')' :: r) := by
    rw [hht]; simp [WR.C06.takeWhile, hws]
  have hsq : startsQuote (serializeUrl s ++ ')' :: r) = false := by
    rw [hht]; simp [startsQuote, hq1, hq2]
  rw [step_identLike total _ (by simp [startsIdent, isNameStart, isLetter]) (by simp [startsURange])
    (take3_head _ _ (by decide)), consumeIdentLike]
  have hn : consumeName ('u' :: 'r' :: 'l' :: '(' :: (serializeUrl s ++ ')' :: r)).length
      ('u' :: 'r' :: 'l' :: '(' :: (serializeUrl s ++ ')' :: r)) = (['u', 'r', 'l'], '(' :: (serializeUrl s ++ ')' :: r)) := by
    simp [consumeName, isNameChar, isNameStart, isLetter, isDigit]
  simp only [hn]
  rw [if_pos (by simp [htw, hsq]; decide)]
  simp only [hrt]

/-! ## at-keywords and hashes -/

theorem atkw_step (total : Nat) (s t r : Str) (hs : serializeIdentifier s = some t) (hr : stopsName r) :
    step q total ('@' :: t ++ r) = .leaf [Tok.atkw (total - ('@' :: t ++ r).length) s] r := by
  obtain ⟨h1, h2⟩ := ident_rt s t r hs hr
  simp only [List.cons_append]
  rw [step_eq_stepPunct q total '@' _ (by decide) (by decide) (by decide) (by decide) (by decide)]
  unfold stepPunct
  rw [if_pos rfl, if_pos h1]
  simp only [h2 _ (Nat.le_refl _)]

theorem escName_digit (d : Char) (h : isDigit d = true) : escName d = [d] := by
  simp [escName, h]

theorem digit_not_nameStart (d : Char) (hd : isDigit d = true) :
    isNameStart d = false ∧ d ≠ '-' ∧ d ≠ '\\' := by
  have hr : 48 ≤ d.toNat ∧ d.toNat ≤ 57 := by simpa [isDigit, char_le_iff] using hd
  refine ⟨?_, ?_, ?_⟩
  · have h1 : isLetter d = false := by
      simp [isLetter, char_le_iff]; omega
    have h2 : d ≠ '_' := by intro h; subst h; simp at hr
    simp [isNameStart, h1, h2]; omega
  · intro h; subst h; simp at hr
  · intro h; subst h; simp at hr

theorem nonId_text (v r : Str) (hv : NonIdValue v) (hr : stopsName r) :
    ∃ d ds, serializeName v ++ r = d :: ds ∧ isNameChar d = true ∧ startsIdent (d :: ds) = false := by
  have hm : isNameStart '-' = false := by decide
  rcases hv with rfl | ⟨d, rest, rfl, hd⟩ | ⟨d, rest, rfl, hd⟩
  · refine ⟨'-', r, by simp [serializeName, escName, isLetter, isDigit], by decide, ?_⟩
    cases r with
    | nil => decide
    | cons c r' =>
      obtain ⟨h1, h2⟩ := hr
      simp only [isNameChar, Bool.or_eq_false_iff, decide_eq_false_iff_not] at h1
      by_cases hc : c = '\\'
      · have hv : validEscTail r' = false := by simpa [hc] using h2
        simp [startsIdent, hm, h1.1.1, h1.2, hv]
      · simp [startsIdent, hm, h1.1.1, h1.2, hc]
  · obtain ⟨g1, g2, g3⟩ := digit_not_nameStart d hd
    exact ⟨d, serializeName rest ++ r, by simp [serializeName, escName_digit d hd], by simp [isNameChar, hd],
      by simp [startsIdent, g1, g2, g3]⟩
  · obtain ⟨g1, g2, g3⟩ := digit_not_nameStart d hd
    exact ⟨'-', d :: (serializeName rest ++ r),
      by simp [serializeName, escName_digit d hd, show escName '-' = ['-'] by decide], by decide,
      by simp [startsIdent, hm, g1, g2, g3]⟩

theorem startsIdent_hashable (d : Char) (ds : Str) (h : startsIdent (d :: ds) = true) :
    (isNameChar d || (d = '\\' && validEscTail ds)) = true := by
  simp only [startsIdent] at h
  split at h
  · rename_i hn; simp [isNameChar, hn]
  · split at h
    · rename_i hd; subst hd; simp [isNameChar]
    · split at h
      · rename_i hb; subst hb; simp [h]
      · cases h

theorem hash_step (total : Nat) (v t r : Str) (isId : Bool)
    (ht : (if isId then serializeIdentifier v else some (serializeName v)) = some t)
    (hv : isId = false → NonIdValue v) (hr : stopsName r) :
    step q total ('#' :: t ++ r) = .leaf [Tok.hash (total - ('#' :: t ++ r).length) v isId] r := by
  simp only [List.cons_append]
  rw [step_eq_stepPunct q total '#' _ (by decide) (by decide) (by decide) (by decide) (by decide)]
  cases isId with
  | true =>
    simp only [if_true] at ht
    obtain ⟨h1, h2⟩ := ident_rt v t r ht hr
    have h2' := h2 _ (Nat.le_refl _)
    generalize hx : t ++ r = inp at *
    cases inp with
    | nil => simp [startsIdent] at h1
    | cons d ds =>
      unfold stepPunct
      rw [if_neg (by decide), if_pos rfl]
      simp only [startsIdent_hashable d ds h1, if_true, h2', h1]
  | false =>
    simp only [Bool.false_eq_true, if_false, Option.some.injEq] at ht
    subst ht
    obtain ⟨d, ds, hx, hd, h1⟩ := nonId_text v r (hv rfl) hr
    have h2' := (readsName_serializeName v).rt r hr _ (Nat.le_refl _)
    rw [hx] at h2' ⊢
    unfold stepPunct
    rw [if_neg (by decide), if_pos rfl]
    simp only [hd, Bool.true_or, if_true, h2', h1]

/-! ## numbers, percentages, dimensions -/

theorem digitOrDot_facts (k : Char) (hk : isDigit k = true ∨ k = '.') :
    isWs k = false ∧ isNameStart k = false ∧ k ≠ '-' ∧ k ≠ '\\' ∧ k ≠ 'u' ∧ k ≠ 'U' := by
  rcases hk with hk | rfl
  · obtain ⟨g1, g2, g3⟩ := digit_not_nameStart k hk
    have hr : 48 ≤ k.toNat ∧ k.toNat ≤ 57 := by simpa [isDigit, char_le_iff] using hk
    refine ⟨?_, g1, g2, g3, ?_, ?_⟩
    · simp [isWs]; refine ⟨⟨?_, ?_⟩, ?_⟩ <;> (intro h; subst h; simp at hr)
    · intro h; subst h; simp at hr
    · intro h; subst h; simp at hr
  · decide

theorem step_number (total : Nat) (repr x : Str) (flag : Bool)
    (h : consumeNumber repr = some (repr, flag, [])) (hx : NumStop x) :
    step q total (repr ++ x) = consumeNumeric (total - (repr ++ x).length) repr flag x := by
  have hst := number_stable repr x flag h hx
  obtain ⟨c, t, rfl, hshape⟩ := number_head repr flag [] h
  simp only [List.cons_append] at hst ⊢
  have key : isWs c = false ∧ startsURange (c :: (t ++ x)) = false ∧
      ((c :: (t ++ x)).take 3 == ['-', '-', '>']) = false ∧ startsIdent (c :: (t ++ x)) = false := by
    rcases hshape with hd | rfl | ⟨hs, k, t', rfl, hk⟩
    · obtain ⟨f1, f2, f3, f4, f5, f6⟩ := digitOrDot_facts c (Or.inl hd)
      exact ⟨f1, startsURange_head _ _ f5 f6, take3_head _ _ f3, by simp [startsIdent, f2, f3, f4]⟩
    · exact ⟨by decide, startsURange_head _ _ (by decide) (by decide), take3_head _ _ (by decide),
        by simp [startsIdent, isNameStart, isLetter]⟩
    · obtain ⟨f1, f2, f3, f4, f5, f6⟩ := digitOrDot_facts k hk
      simp only [List.cons_append]
      rcases hs with rfl | rfl
      · exact ⟨by decide, startsURange_head _ _ (by decide) (by decide), take3_head _ _ (by decide),
          by simp [startsIdent, isNameStart, isLetter]⟩
      · have hm : isNameStart '-' = false := by decide
        exact ⟨by decide, startsURange_head _ _ (by decide) (by decide), take3_second _ k _ f3,
          by simp [startsIdent, hm, f2, f3, f4]⟩
  obtain ⟨k1, k2, k3, k4⟩ := key
  unfold step
  simp only []
  rw [if_neg (by simp [k1]), k2, k3]
  simp only [Bool.false_eq_true, if_false]
  rw [if_neg (by simp [k4])]
  simp only [hst]

theorem number_step (total : Nat) (repr x : Str) (flag : Bool)
    (h : consumeNumber repr = some (repr, flag, [])) (hx : NumStop x)
    (hid : startsIdent x = false) (hpct : ∀ t, x ≠ '%' :: t) :
    step q total (repr ++ x) = .leaf [Tok.num (total - (repr ++ x).length) repr flag] x := by
  rw [step_number total repr x flag h hx]
  unfold consumeNumeric
  rw [if_neg (by simp [hid])]
  split
  · rename_i t; exact absurd rfl (hpct t)
  · rfl

theorem pct_numStop (x : Str) : NumStop ('%' :: x) := by
  refine ⟨Or.inr ⟨'%', x, rfl, by decide⟩, ?_, ?_⟩
  · intro t h; cases h
  · exact takeExp_not_e '%' x (by decide) (by decide)

theorem percentage_step (total : Nat) (repr x : Str) (flag : Bool)
    (h : consumeNumber repr = some (repr, flag, [])) :
    step q total (repr ++ '%' :: x)
      = .leaf [Tok.pct (total - (repr ++ '%' :: x).length) repr flag] x := by
  rw [step_number total repr ('%' :: x) flag h (pct_numStop x)]
  simp [consumeNumeric, startsIdent, isNameStart, isLetter]

theorem startsIdent_numStop (y : Str) (h1 : startsIdent y = true) (h2 : takeExp y = ([], y)) : NumStop y := by
  cases y with
  | nil => simp [startsIdent] at h1
  | cons c cs =>
    have hnd : isDigit c = false ∧ c ≠ '.' := by
      constructor
      · cases hd : isDigit c with
        | false => rfl
        | true =>
          obtain ⟨g1, g2, g3⟩ := digit_not_nameStart c hd
          simp [startsIdent, g1, g2, g3] at h1
      · intro h; subst h; simp [startsIdent, isNameStart, isLetter] at h1
    refine ⟨Or.inr ⟨c, cs, rfl, hnd.1⟩, ?_, h2⟩
    intro t h; cases h; exact hnd.2 rfl

theorem dim_numeric (pos : Nat) (repr : Str) (isInt : Bool) (u t r : Str)
    (hs : serializeUnit u = some t) (hr : stopsName r) :
    consumeNumeric pos repr isInt (t ++ r) = .leaf [Tok.dim pos repr isInt u] r := by
  obtain ⟨h1, h2, _⟩ := unit_rt u t r hs hr
  unfold consumeNumeric
  rw [if_pos h1]
  simp only [h2 _ (Nat.le_refl _)]

theorem dimension_step (total : Nat) (repr u t r : Str) (flag : Bool)
    (h : consumeNumber repr = some (repr, flag, [])) (hs : serializeUnit u = some t) (hr : stopsName r) :
    step q total (repr ++ (t ++ r))
      = .leaf [Tok.dim (total - (repr ++ (t ++ r)).length) repr flag u] r := by
  obtain ⟨h1, _, h3⟩ := unit_rt u t r hs hr
  rw [step_number total repr (t ++ r) flag h (startsIdent_numStop _ h1 h3)]
  exact dim_numeric _ repr flag u t r hs hr

/-! ## white space, the separator comment, `;` -/

theorem takeWhile_ws_all (w r : Str) (hw : ∀ c ∈ w, isWs c = true) (hr : NoWsNext r) :
    WR.C06.takeWhile isWs (w ++ r) = (w, r) := by
  induction w with
  | nil =>
    cases r with
    | nil => simp [WR.C06.takeWhile]
    | cons c tl => simp [WR.C06.takeWhile, show isWs c = false from hr]
  | cons c cs ih =>
    have := ih (fun x hx => hw x (by simp [hx]))
    simp [WR.C06.takeWhile, hw c (by simp), this]

theorem ws_step (total : Nat) (w r : Str) (hw : IsWsText w) (hr : NoWsNext r) :
    step q total (w ++ r) = .leaf [Tok.ws (total - (w ++ r).length) w] r := by
  obtain ⟨hne, hall⟩ := hw
  cases w with
  | nil => exact absurd rfl hne
  | cons c cs =>
    have htw := takeWhile_ws_all cs r (fun x hx => hall x (by simp [hx])) hr
    simp only [List.cons_append]
    unfold step
    simp only []
    rw [if_pos (hall c (by simp))]
    simp only [htw]

theorem comment_step (total : Nat) (rest : Str) :
    step q total ('/' :: '*' :: '*' :: '/' :: rest)
      = .leaf [Tok.comment (total - ('/' :: '*' :: '*' :: '/' :: rest).length) []] rest := by
  rw [step_eq_stepPunct q total '/' _ (by decide) (by decide) (by decide) (by decide) (by decide)]
  simp [stepPunct, consumeComment]

theorem semi_step (total : Nat) (rest : Str) :
    step q total (';' :: rest) = .leaf [Tok.lit (total - (';' :: rest).length) [';']] rest := by
  rw [step_eq_stepPunct q total ';' _ (by decide) (by decide) (by decide) (by decide) (by decide)]
  simp [stepPunct, consumeDelim]

end WR.C20
