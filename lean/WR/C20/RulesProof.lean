/-
  C20 — rule level: an at-rule whose prelude is a sequence of atoms survives
  serialize → tokenize → consume-an-at-rule (block-less form).
-/
import WR.C20.Adjacent
import WR.C20.Rules
import WR.C06.ParserLemmas
namespace WR.C20
open WR.C06 List

theorem atom_not_semi_curly (t : Tok) (txt : Str) (h : Atom t txt) :
    isSemi (stripTok t) = false ∧ isCurly (stripTok t) = false := by
  cases h <;> simp [stripTok, isSemi, isLit, isCurly]

/-- stripped, a sequence of atoms holds neither a `;` nor a `{}` block -/
theorem seq_strip_plain {tbl : Pairs} (ts : List Tok) (txt : Str) (h : Seq tbl ts txt) :
    noSemiNoCurly (strip ts) := by
  induction h with
  | nil => intro t ht; simp [strip] at ht
  | one t txt ha =>
    rw [(atom_strip t txt ha 0 []).2]
    exact forall_mem_cons.mpr ⟨atom_not_semi_curly t txt ha, by simp [strip]⟩
  | cons t txt t2 ts rest ha hs hw ih =>
    rw [(atom_strip t txt ha 0 _).2]
    exact forall_mem_cons.mpr ⟨atom_not_semi_curly t txt ha, ih⟩

/-- the rule serializer writes the sequence text and `;`; that text tokenizes back to keyword,
prelude and `;`; consuming an at-rule from those tokens gives the block-less rule back -/
theorem atrule_rt {q : Quirks} {tbl : Pairs} (htbl : TableOk tbl)
    (kw : Str) (pre : List Tok) (txt : Str)
    (h : Seq tbl (Tok.atkw 0 kw :: pre) txt) :
    serCompound tbl (.atrule 0 kw pre none) = some (txt ++ [';']) ∧
    strip (tokenizePre q (txt ++ [';'])) = Tok.atkw 0 kw :: (strip pre ++ [Tok.lit 0 [';']]) ∧
    consumeAtRule 0 kw (strip pre ++ [Tok.lit 0 [';']]) = (.atrule 0 kw (strip pre) none, []) := by
  refine ⟨?_, ?_, ?_⟩
  · have hser := (roundtrip_adjacent (q := q) htbl _ txt h).1
    simp only [serialize] at hser
    simp [serCompound, hser]
  · have ht := seq_tokenize_tail (q := q) htbl _ txt h [';'] ⟨by simp [SafeFollow, SafeHead], by simp [NoWsNext, isWs]⟩ (txt ++ [';']).length
      ((txt ++ [';']).length + 1) (Nat.lt_succ_self _)
    unfold tokenizePre
    rw [ht]
    rw [consumeList_leaf _ _ [';'] _ [] (semi_step _ []) (by simp)]
    simp [consumeList_nil, strip, stripTok]
  · have hp : noSemiNoCurly (strip pre) :=
      fun t ht => seq_strip_plain _ txt h t (mem_cons_of_mem _ ht)
    simp [consumeAtRule, atRuleBody_semi (strip pre) [] (Tok.lit 0 [';']) rfl hp]

end WR.C20
