/-
  C20 — `roundtrip_partial` for arbitrary adjacent leaf tokens: each adjacent pair either gets the
  separator `/**/` from the table or provably cannot fuse.  The table is a variable: what is used
  of it (`TableOk`) is that it contains the pairs of css-syntax-3 §9 (`specPairs`) and has no entry
  for white space or for the start of the list; WR.Props.C20 puts in the table dumped from the running code.
  White-space separated lists of identifiers, strings and urls are a special case.
-/
import WR.C20.TokenLevel
namespace WR.C20
open WR.C06 List
variable {q : Quirks}

/-- atoms that end with an unambiguous delimiter: anything may follow -/
def freeTok : Tok → Bool
  | .str _ _ _ => true
  | .url _ _ _ => true
  | .pct _ _ _ => true
  | _ => false

/-- what may follow an atom: after a delimited one anything, after white space anything but white
space, after the others `SafeFollow` -/
def Fol (t : Tok) (r : Str) : Prop :=
  if freeTok t = true then True else if isWsTok t = true then NoWsNext r else SafeFollow r

theorem Fol.safe {t : Tok} {r : Str} (h : Fol t r) (h1 : freeTok t = false) (h2 : isWsTok t = false) :
    SafeFollow r := by
  simpa [Fol, h1, h2] using h

theorem atom_step (total : Nat) (t : Tok) (txt r : Str) (h : Atom t txt) (hr : Fol t r) :
    ∃ p, step q total (txt ++ r) = .leaf [Tok.setPos p t] r := by
  cases h with
  | ident p s t hs =>
    obtain ⟨h1, h2, h3, _⟩ := safe_facts r (hr.safe rfl rfl)
    exact ⟨_, ident_step total s txt r hs h1 h2 (ident_no_urange s txt r hs h3) (ident_no_cdc s txt r hs h3)⟩
  | str p s => exact ⟨_, by simpa [Tok.setPos] using string_step total s r⟩
  | url p s h0 => exact ⟨_, by simpa [Tok.setPos] using url_step total s r h0⟩
  | atkw p s t hs => exact ⟨_, atkw_step total s t r hs (safe_facts r (hr.safe rfl rfl)).1⟩
  | hashId p s t hs =>
    exact ⟨_, hash_step total s t r true hs (fun h => nomatch h) (safe_facts r (hr.safe rfl rfl)).1⟩
  | hashName p s hv =>
    exact ⟨_, hash_step total s _ r false rfl (fun _ => hv) (safe_facts r (hr.safe rfl rfl)).1⟩
  | num p rp f hn =>
    obtain ⟨_, _, _, g4, g5, g6⟩ := safe_facts r (hr.safe rfl rfl)
    exact ⟨_, number_step total txt r f hn g4 g5 g6⟩
  | pct p rp f hn =>
    exact ⟨_, by simpa [Tok.setPos] using percentage_step total rp r f hn⟩
  | dim p rp f u t hn hu =>
    exact ⟨_, by simpa [Tok.setPos] using dimension_step total rp u t r f hn hu (safe_facts r (hr.safe rfl rfl)).1⟩
  | ws p w hw =>
    exact ⟨_, ws_step total txt r hw (by simpa [Fol, freeTok, isWsTok] using hr)⟩

theorem number_text_head (r : Str) (f : Bool) (more : Str) (h : consumeNumber r = some (r, f, [])) :
    ∃ c tl, r ++ more = c :: tl ∧ isWs c = false := by
  obtain ⟨c, t, rfl, hshape⟩ := number_head r f [] h
  refine ⟨c, t ++ more, rfl, ?_⟩
  rcases hshape with hd | rfl | ⟨hs, _⟩
  · exact (digitOrDot_facts c (Or.inl hd)).1
  · decide
  · rcases hs with rfl | rfl <;> decide

/-- serialization types of the atoms whose text ends in name code points or digits … -/
def nameEnded : List Str :=
  ["ident".toList, "at-keyword".toList, "hash".toList, "number".toList, "dimension".toList]

/-- … and of those whose text starts like an identifier or a number -/
def nameHeaded : List Str :=
  ["ident".toList, "url".toList, "number".toList, "percentage".toList, "dimension".toList]

/-- css-syntax-3 §9 asks for a separator between any of the former and any of the latter -/
theorem nameEnded_nameHeaded_spec : ∀ a ∈ nameEnded, ∀ b ∈ nameHeaded, (a, b) ∈ specPairs := by
  decide +kernel

theorem atom_tail (t : Tok) (txt : Str) (h : Atom t txt) (h1 : freeTok t = false) (h2 : isWsTok t = false) :
    serType t ∈ nameEnded := by
  cases h with
  | str | url | pct => cases h1
  | ws => cases h2
  | ident => exact .head _
  | atkw => exact .tail _ (.head _)
  | hashId | hashName => exact .tail _ (.tail _ (.head _))
  | num => exact .tail _ (.tail _ (.tail _ (.head _)))
  | dim => exact .tail _ (.tail _ (.tail _ (.tail _ (.head _))))

theorem atom_head (t : Tok) (txt : Str) (h : Atom t txt) :
    ∃ c tl, txt = c :: tl ∧ (isWsTok t = false → isWs c = false) ∧ (SafeHead c ∨ serType t ∈ nameHeaded) := by
  cases h with
  | ident p s t hs =>
    obtain ⟨h1, _⟩ := ident_rt s txt [] hs trivial
    simp only [List.append_nil] at h1
    cases txt with
    | nil => simp [startsIdent] at h1
    | cons c tl => exact ⟨c, tl, rfl, fun _ => startsIdent_not_ws c tl h1, .inr (.head _)⟩
  | str p s => exact ⟨'"', _, rfl, fun _ => by decide, .inl (by simp [SafeHead])⟩
  | url p s h0 => exact ⟨'u', _, rfl, fun _ => by decide, .inr (.tail _ (.head _))⟩
  | atkw p s t hs => exact ⟨'@', _, rfl, fun _ => by decide, .inl (by simp [SafeHead])⟩
  | hashId p s t hs => exact ⟨'#', _, rfl, fun _ => by decide, .inl (by simp [SafeHead])⟩
  | hashName p s hv => exact ⟨'#', _, rfl, fun _ => by decide, .inl (by simp [SafeHead])⟩
  | num p r f hn =>
    obtain ⟨c, tl, he, hc⟩ := number_text_head txt f [] hn
    simp only [List.append_nil] at he
    exact ⟨c, tl, he, fun _ => hc, .inr (.tail _ (.tail _ (.head _)))⟩
  | pct p r f hn =>
    obtain ⟨c, tl, he, hc⟩ := number_text_head r f ['%'] hn
    exact ⟨c, tl, he, fun _ => hc, .inr (.tail _ (.tail _ (.tail _ (.head _))))⟩
  | dim p r f u t hn hu =>
    obtain ⟨c, tl, he, hc⟩ := number_text_head r f t hn
    exact ⟨c, tl, he, fun _ => hc, .inr (.tail _ (.tail _ (.tail _ (.tail _ (.head _)))))⟩
  | ws p w hw =>
    obtain ⟨hne, hall⟩ := hw
    cases txt with
    | nil => exact absurd rfl hne
    | cons c tl => exact ⟨c, tl, rfl, by simp [isWsTok], .inl (.inl (hall c (by simp)))⟩

theorem consumeList_leaf (total f : Nat) (inp : Str) (ts : List Tok) (r : Str)
    (hs : step q total inp = .leaf ts r) (hf : inp.length < f) :
    consumeList q total f none inp
      = (ts ++ (consumeList q total f none r).1, (consumeList q total f none r).2) := by
  have hp := step_progress q total inp r (by simp [hs, Step.rest?])
  cases f with
  | zero => omega
  | succ f =>
    rw [consumeList, hs]
    simp only []
    rw [consumeList_fuel_succ q total f none r (by have := hp.2; omega)]

/-! ## sequences of atoms, for any separator table that contains the css-syntax-3 §9 pairs and
has no entry for the start of the list -/

section table
variable {tbl : Pairs}

/-- what the proofs use of a separator table: it contains the pairs of css-syntax-3 §9, and no
entry speaks of white space or of the start of the list (serialization type `[]`) -/
structure TableOk (tbl : Pairs) : Prop where
  spec : specPairs.all (fun p => isBadPair tbl p.1 p.2) = true
  noWs : tbl.all (fun p => p.1 != "whitespace".toList && p.2 != "whitespace".toList && p.1 != []) = true

theorem seq_head (t2 : Tok) (ts : List Tok) (rest : Str) (h : Seq tbl (t2 :: ts) rest) :
    ∃ txt2 more, Atom t2 txt2 ∧ rest = txt2 ++ more := by
  cases h with
  | one t txt ha => exact ⟨rest, [], ha, by simp⟩
  | cons t txt t3 ts' rest' ha hs hw => exact ⟨txt, sepOf tbl t2 t3 ++ rest', ha, by simp⟩

theorem fol_of_safe (t : Tok) (tail : Str) (h : SafeFollow tail ∧ NoWsNext tail) : Fol t tail := by
  unfold Fol
  split
  · trivial
  · split
    · exact h.2
    · exact h.1

/-- what is written after an atom — separator included — can always be tokenized on its own: the
table puts a separator between the two atoms, or the first one ends with an unambiguous delimiter,
or the second one starts with a code point that cannot be absorbed -/
theorem fol_of_pair (htbl : TableOk tbl)
    (t t2 : Tok) (txt txt2 more : Str) (h : Atom t txt) (h2 : Atom t2 txt2)
    (hws : (isWsTok t && isWsTok t2) = false) :
    Fol t (sepOf tbl t t2 ++ (txt2 ++ more)) := by
  obtain ⟨c, tl, he, hc1, hc2⟩ := atom_head t2 txt2 h2
  by_cases hb : isBadPair tbl (serType t) (serType t2) = true
  · simp only [sepOf, hb, if_true, List.cons_append]
    exact fol_of_safe t _ ⟨by simp [SafeFollow, SafeHead], by simp [NoWsNext, isWs]⟩
  · simp only [sepOf, hb, Bool.false_eq_true, if_false, List.nil_append, he, List.cons_append]
    unfold Fol
    split
    · trivial
    · rename_i hfree
      split
      · rename_i hw
        exact hc1 (by simpa [hw] using hws)
      · rename_i hw
        rcases hc2 with hs | hk
        · exact hs
        · have hmem := nameEnded_nameHeaded_spec _ (atom_tail t txt h (by simpa using hfree) (by simpa using hw)) _ hk
          exact absurd (List.all_eq_true.mp htbl.spec _ hmem) hb

theorem atom_strip (t : Tok) (txt : Str) (h : Atom t txt) (q : Nat) (X : List Tok) :
    strip (Tok.setPos q t :: X) = stripTok t :: strip X ∧ strip (t :: X) = stripTok t :: strip X := by
  cases h <;> simp [Tok.setPos, strip, stripTok]

theorem atom_nonempty (t : Tok) (txt : Str) (h : Atom t txt) : txt ≠ [] := by
  obtain ⟨c, tl, he, _⟩ := atom_head t txt h
  rw [he]; simp

theorem consumeList_nil (total f : Nat) : consumeList q total (f + 1) none [] = ([], []) := by
  simp [consumeList, step]

/-- the separator is nothing or a comment, which `strip` drops -/
theorem sep_tokenize (t t2 : Tok) (rest : Str) (total f : Nat) (hf : (sepOf tbl t t2 ++ rest).length < f) :
    strip (consumeList q total f none (sepOf tbl t t2 ++ rest)).1 = strip (consumeList q total f none rest).1 := by
  by_cases hb : isBadPair tbl (serType t) (serType t2) = true
  · rw [sepOf, if_pos hb] at hf ⊢
    rw [show ['/', '*', '*', '/'] ++ rest = '/' :: '*' :: '*' :: '/' :: rest from rfl] at hf ⊢
    rw [consumeList_leaf total f _ _ _ (comment_step total rest) hf]
    rfl
  · rw [sepOf, if_neg hb]
    rfl

theorem seq_tokenize_tail (htbl : TableOk tbl)
    (ts : List Tok) (txt : Str) (h : Seq tbl ts txt) :
    ∀ tail, SafeFollow tail ∧ NoWsNext tail → ∀ total f, (txt ++ tail).length < f →
      strip (consumeList q total f none (txt ++ tail)).1
        = strip ts ++ strip (consumeList q total f none tail).1 := by
  induction h with
  | nil => intro tail _ total f hf; simp [strip]
  | one t txt ha =>
    intro tail ht total f hf
    obtain ⟨p, hp⟩ := atom_step total t txt tail ha (fol_of_safe t tail ht)
    rw [consumeList_leaf total f _ _ tail hp hf]
    simp only [List.cons_append, List.nil_append]
    rw [(atom_strip t txt ha p _).1, (atom_strip t txt ha 0 []).2]
    simp [strip]
  | cons t txt t2 ts rest ha hs hw ih =>
    intro tail ht total f hf
    obtain ⟨txt2, more, ha2, hrest⟩ := seq_head t2 ts rest hs
    have hfol := fol_of_pair htbl t t2 txt txt2 (more ++ tail) ha ha2 hw
    rw [show txt2 ++ (more ++ tail) = rest ++ tail by rw [hrest, List.append_assoc]] at hfol
    obtain ⟨p, hp⟩ := atom_step total t txt (sepOf tbl t t2 ++ (rest ++ tail)) ha hfol
    simp only [List.append_assoc] at hf ⊢
    have hlen : (sepOf tbl t t2 ++ (rest ++ tail)).length < f := by
      have := List.length_pos_iff.mpr (atom_nonempty t txt ha)
      simp only [List.length_append] at hf ⊢
      omega
    rw [consumeList_leaf total f _ _ _ hp hf]
    simp only [List.cons_append, List.nil_append]
    rw [(atom_strip t txt ha p _).1, (atom_strip t txt ha 0 _).2, sep_tokenize t t2 _ total f hlen,
      ih tail ht total f (by simp only [List.length_append] at hlen ⊢; omega)]
    rfl

theorem atom_ser (t : Tok) (txt : Str) (h : Atom t txt) : serTok tbl t = some txt := by
  cases h with
  | ident p s t hs => exact hs
  | atkw p s t hs | hashId p s t hs => simp [serTok, hs]
  | dim p r f u t hn hu => simp [serTok, hu]
  | str | url | hashName | num | pct | ws => simp [serTok]

/-- no atom has the serialization type of the `\\` literal, after which a newline would be written -/
theorem atom_type_ne_backslash (t : Tok) (txt : Str) (h : Atom t txt) : serType t ≠ ['\\'] := by
  cases h with
  | ident => show ("ident".toList : Str) ≠ _; decide +kernel
  | str => show ("string".toList : Str) ≠ _; decide +kernel
  | url => show ("url".toList : Str) ≠ _; decide +kernel
  | atkw => show ("at-keyword".toList : Str) ≠ _; decide +kernel
  | hashId | hashName => show ("hash".toList : Str) ≠ _; decide +kernel
  | num => show ("number".toList : Str) ≠ _; decide +kernel
  | pct => show ("percentage".toList : Str) ≠ _; decide +kernel
  | dim => show ("dimension".toList : Str) ≠ _; decide +kernel
  | ws => show ("whitespace".toList : Str) ≠ _; decide +kernel

theorem separator_eq_sepOf (t t2 : Tok) (txt : Str) (h : Atom t txt) :
    separator tbl (serType t) t2 = sepOf tbl t t2 := by
  unfold separator sepOf
  split
  · rfl
  · rw [if_neg (atom_type_ne_backslash t txt h)]

theorem seq_serialize (ts : List Tok) (txt : Str) (h : Seq tbl ts txt) :
    ∀ prev, serList tbl prev ts
      = some ((match ts with | [] => [] | t :: _ => separator tbl prev t) ++ txt) := by
  induction h with
  | nil => intro prev; simp [serList]
  | one t txt ha =>
    intro prev
    simp [serList, atom_ser t txt ha]
  | cons t txt t2 ts rest ha hs hw ih =>
    intro prev
    rw [serList, atom_ser t txt ha, ih (serType t)]
    simp only [separator_eq_sepOf t t2 txt ha, List.append_assoc]

theorem no_pair_ws (htbl : TableOk tbl)
    (a b : Str) (h : a = [] ∨ a = "whitespace".toList ∨ b = "whitespace".toList) :
    isBadPair tbl a b = false := by
  cases hb : isBadPair tbl a b with
  | false => rfl
  | true =>
    exfalso
    simp only [isBadPair, List.any_eq_true, Bool.and_eq_true, beq_iff_eq] at hb
    obtain ⟨p, hp, h1, h2⟩ := hb
    have := List.all_eq_true.mp htbl.noWs p hp
    simp only [Bool.and_eq_true, bne_iff_ne, ne_eq] at this
    rcases h with h | h | h
    · exact this.2 (h1.trans h)
    · exact this.1.1 (h1.trans h)
    · exact this.1.2 (h2.trans h)

/-- for EVERY sequence of identifiers, strings, urls, at-keywords, hashes, numbers, percentages,
dimensions and white space in any order — two white-space tokens in a row excepted — the serializer
writes a text that tokenizes back to the same tokens, positions and the inserted `/**/` aside,
whenever the separator table contains the pairs of css-syntax-3 §9 and has no entry for the start of
the list (serialization type `[]`) -/
theorem roundtrip_adjacent (htbl : TableOk tbl)
    (ts : List Tok) (txt : Str) (h : Seq tbl ts txt) :
    serialize tbl ts = some txt ∧ strip (tokenizePre q txt) = strip ts := by
  constructor
  · rw [serialize, seq_serialize ts txt h []]
    cases ts with
    | nil => rfl
    | cons t ts' =>
      have h1 : isBadPair tbl [] (serType t) = false := no_pair_ws htbl _ _ (Or.inl rfl)
      simp [separator, h1]
  · have := seq_tokenize_tail (q := q) htbl ts txt h [] ⟨trivial, trivial⟩ txt.length (txt.length + 1) (by simp)
    simpa [tokenizePre, consumeList_nil, strip] using this

/-! ## white-space separated lists are sequences of atoms -/

theorem Simple.atom {t : Tok} {txt : Str} (h : Simple t txt) : Atom t txt := by
  cases h with
  | ident p s t hs => exact .ident p s txt hs
  | str p s => exact .str p s
  | url p s h0 => exact .url p s h0

theorem Simple.not_ws {t : Tok} {txt : Str} (h : Simple t txt) : isWsTok t = false := by
  cases h <;> rfl

variable (htbl : TableOk tbl)
include htbl

theorem seq_ws_cons (p : Nat) (w : Str) (hw : IsWsText w) (ts : List Tok) (rest : Str) (h : Seq tbl ts rest)
    (hn : ∀ t' ts', ts = t' :: ts' → isWsTok t' = false) : Seq tbl (Tok.ws p w :: ts) (w ++ rest) := by
  cases ts with
  | nil => cases h; simpa using Seq.one (Tok.ws p w) w (.ws p w hw)
  | cons t' ts' =>
    have hsep : sepOf tbl (Tok.ws p w) t' = [] := by
      simp [sepOf, no_pair_ws htbl (serType (Tok.ws p w)) (serType t') (.inr (.inl rfl))]
    simpa [hsep] using Seq.cons (Tok.ws p w) w t' ts' rest (.ws p w hw) h (by rw [hn t' ts' rfl, Bool.and_false])

theorem chain_seq (ts : List Tok) (txt : Str) (h : Chain ts txt) :
    Seq tbl ts txt ∧ ∀ t' ts', ts = t' :: ts' → isWsTok t' = false := by
  induction h with
  | nil => exact ⟨.nil, fun _ _ h => nomatch h⟩
  | last t txt hs => exact ⟨.one t txt hs.atom, fun _ _ h => by cases h; exact hs.not_ws⟩
  | cons t txt p w ts rest hs hw hc ih =>
    refine ⟨?_, fun _ _ h => by cases h; exact hs.not_ws⟩
    have hsep : sepOf tbl t (Tok.ws p w) = [] := by
      simp [sepOf, no_pair_ws htbl (serType t) (serType (Tok.ws p w)) (.inr (.inr rfl))]
    simpa [hsep] using Seq.cons t txt (Tok.ws p w) ts (w ++ rest) hs.atom
      (seq_ws_cons htbl p w hw ts rest ih.1 ih.2) (by rw [hs.not_ws, Bool.false_and])

theorem wsSeparated_seq (ts : List Tok) (txt : Str) (h : WsSeparated ts txt) : Seq tbl ts txt := by
  cases h with
  | chain ts txt hc => exact (chain_seq htbl ts txt hc).1
  | ws p w ts txt hw hc => exact seq_ws_cons htbl p w hw ts txt (chain_seq htbl ts txt hc).1 (chain_seq htbl ts txt hc).2

end table
end WR.C20
