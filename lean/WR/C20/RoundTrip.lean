/-
  C20 — consumer-level round trips, for every string: what serialize.go writes for a name, a string,
  an identifier, a url or a unit is read back by the C06 consumer as the value it was written from.
  Every code point is written either as itself or as `\` + an escape that reads back as it
  (`Written`); the four escape tables of serialize.go are the lemmas `esc…_written`.
-/
import WR.C20.Spec
import WR.C06.Progress
namespace WR.C20
open WR.C06 List

theorem char_le_iff (a b : Char) : a ≤ b ↔ a.toNat ≤ b.toNat := by
  rw [Char.le_def, UInt32.le_iff_toNat_le]; rfl

theorem consumeName_stop (f : Nat) (r : Str) (h : stopsName r) : consumeName f r = ([], r) := by
  cases f <;> cases r <;> simp_all [consumeName, stopsName]

theorem isNameChar_of_plain (c : Char) (h : (isLetter c || c = '-' || c = '_' || isDigit c) = true ∨ c.toNat > 0x7F) :
    isNameChar c = true := by
  simp [isNameChar, isNameStart] at *
  grind

theorem not_hex_of (c : Char) (h1 : isLetter c = false) (h2 : isDigit c = false) : isHex c = false := by
  simp [isHex, isLetter, isDigit, char_le_iff] at *
  omega

theorem digit_range (c : Char) (h : isDigit c = true) : c.toNat ≠ 0 ∧ c.toNat < 128 := by
  simp [isDigit, char_le_iff] at h
  omega

theorem validEscTail_cons (c : Char) (rest : Str) (h : c ≠ '\n') : validEscTail (c :: rest) = true := by
  unfold validEscTail; split <;> simp_all

/-! ## escapes -/

def hexFold (acc : Nat) (ds : Str) : Nat := ds.foldl (fun a c => a * 16 + hexVal c) acc

theorem takeHex_digits (ds : Str) (k acc : Nat) (w : Char) (rest : Str)
    (hd : ∀ c ∈ ds, isHex c = true) (hk : ds.length ≤ k) (hw : isHex w = false) :
    takeHex k acc (ds ++ w :: rest) = (hexFold acc ds, ds.length, w :: rest) := by
  induction ds generalizing k acc with
  | nil => cases k <;> simp [takeHex, hexFold, hw]
  | cons d ds ih =>
    cases k with
    | zero => simp at hk
    | succ k =>
      have h1 := hd d (by simp)
      have := ih k (acc * 16 + hexVal d) (fun c hc => hd c (by simp [hc])) (by simp at hk; omega)
      simp [takeHex, h1, this, hexFold]

/-- `\` followed by `tail` is a valid escape that reads back as `c`, whatever comes after it -/
def EscapeOf (tail : Str) (c : Char) : Prop :=
  ∃ h tl, tail = h :: tl ∧ h ≠ '\n' ∧ ∀ rest, consumeEscape (h :: (tl ++ rest)) = (c, rest)

theorem escapeOf_self (c : Char) (hx : isHex c = false) (hn : c ≠ '\n') : EscapeOf [c] c :=
  ⟨c, [], rfl, hn, fun rest => by simp [consumeEscape, hx]⟩

theorem escapeOf_hex (d : Char) (ds : Str) (c : Char) (hd : ∀ x ∈ d :: ds, isHex x = true)
    (hl : (d :: ds).length ≤ 6) (hc : escChar (hexFold 0 (d :: ds)) = c) : EscapeOf (d :: ds ++ [' ']) c := by
  have h1 := hd d (by simp)
  refine ⟨d, ds ++ [' '], rfl, fun h => by subst h; simp [isHex, isDigit] at h1, fun rest => ?_⟩
  have ht := takeHex_digits (d :: ds) 6 0 ' ' rest hd hl (by decide)
  simp only [List.cons_append] at ht
  simp [consumeEscape, h1, ht, isWs, hc]

def hexOk (n : Nat) : Bool :=
  (hexUpper n).all isHex && (hexUpper n).length ≤ 6 && !(hexUpper n).isEmpty && hexFold 0 (hexUpper n) == n

theorem hexOk_small : ∀ n, n < 128 → hexOk n = true := by decide +kernel

theorem escapeOf_hexUpper (c : Char) (h0 : c.toNat ≠ 0) (h1 : c.toNat < 128) :
    EscapeOf (hexUpper c.toNat ++ [' ']) c := by
  have hok := hexOk_small c.toNat h1
  simp only [hexOk, Bool.and_eq_true, List.all_eq_true, decide_eq_true_eq, Bool.not_eq_true',
    beq_iff_eq] at hok
  obtain ⟨⟨⟨hall, hlen⟩, hne⟩, hfold⟩ := hok
  cases hds : hexUpper c.toNat with
  | nil => simp [hds] at hne
  | cons d ds =>
    rw [hds] at hall hlen hfold
    refine escapeOf_hex d ds c hall hlen ?_
    rw [hfold, escChar, if_neg (by omega)]
    exact Char.ofNat_toNat c

/-- the text written for one code point `c`: `c` itself when it is `plain`, or an escape that reads
back as `c` -/
def Written (plain : Char → Bool) (txt : Str) (c : Char) : Prop :=
  (txt = [c] ∧ plain c = true) ∨ ∃ tail, txt = '\\' :: tail ∧ EscapeOf tail c

theorem Written.head {plain : Char → Bool} {txt : Str} {c : Char} (h : Written plain txt c) :
    ∃ a tl, txt = a :: tl ∧ (a = c ∧ plain c = true ∨ a = '\\') := by
  rcases h with ⟨rfl, hp⟩ | ⟨tail, rfl, _⟩
  · exact ⟨c, [], rfl, .inl ⟨rfl, hp⟩⟩
  · exact ⟨'\\', tail, rfl, .inr rfl⟩

/-- the first written code point is never a non-plain code point other than `\\` -/
theorem Written.head_ne {plain : Char → Bool} {txt : Str} {c : Char} (h : Written plain txt c) :
    ∃ a tl, txt = a :: tl ∧ ∀ x, plain x = false → x ≠ '\\' → a ≠ x := by
  obtain ⟨a, tl, ha, hh⟩ := h.head
  refine ⟨a, tl, ha, fun x hx hb hax => ?_⟩
  subst hax
  rcases hh with ⟨rfl, hp⟩ | rfl
  · rw [hp] at hx; cases hx
  · exact hb rfl

theorem Written.esc {plain : Char → Bool} {tail : Str} {c : Char} (h : EscapeOf tail c) :
    Written plain ('\\' :: tail) c := .inr ⟨tail, rfl, h⟩

/-- the three newline code points, written `\A `, `\D `, `\C ` by all four escape tables -/
theorem Written.newlines {plain : Char → Bool} {c : Char} {x : Str}
    (h : c ≠ '\n' → c ≠ '\r' → c ≠ '\x0c' → Written plain x c) :
    Written plain (if c = '\n' then ['\\', 'A', ' '] else if c = '\r' then ['\\', 'D', ' ']
      else if c = '\x0c' then ['\\', 'C', ' '] else x) c := by
  by_cases h1 : c = '\n'
  · rw [if_pos h1]; exact .esc (h1 ▸ escapeOf_hex 'A' [] _ (by decide) (by decide) (by decide))
  rw [if_neg h1]
  by_cases h2 : c = '\r'
  · rw [if_pos h2]; exact .esc (h2 ▸ escapeOf_hex 'D' [] _ (by decide) (by decide) (by decide))
  rw [if_neg h2]
  by_cases h3 : c = '\x0c'
  · rw [if_pos h3]; exact .esc (h3 ▸ escapeOf_hex 'C' [] _ (by decide) (by decide) (by decide))
  rw [if_neg h3]
  exact h h1 h2 h3

theorem escName_written (c : Char) : Written isNameChar (escName c) c := by
  unfold escName
  by_cases h1 : (isLetter c || c = '-' || c = '_' || isDigit c) = true
  · rw [if_pos h1]; exact .inl ⟨rfl, isNameChar_of_plain c (.inl h1)⟩
  rw [if_neg h1]
  refine .newlines fun h2 _ _ => ?_
  by_cases h5 : c.toNat > 0x7F
  · rw [if_pos h5]; exact .inl ⟨rfl, isNameChar_of_plain c (.inr h5)⟩
  rw [if_neg h5]
  simp only [Bool.or_eq_true, decide_eq_true_eq, not_or] at h1
  exact .esc (escapeOf_self c (not_hex_of c (by simpa using h1.1.1.1) (by simpa using h1.2)) h2)

/-! ## names -/

theorem consumeName_written {plain : Char → Bool} {txt : Str} {c : Char} (h : Written plain txt c)
    (hp : plain c = true → isNameChar c = true) (f : Nat) (rest : Str) :
    consumeName (f + 1) (txt ++ rest) = (c :: (consumeName f rest).1, (consumeName f rest).2) := by
  rcases h with ⟨rfl, hc⟩ | ⟨tail, rfl, a, tl, rfl, ha, he⟩
  · simp [consumeName, hp hc]
  · have hbs : isNameChar '\\' = false := by decide
    simp [consumeName, hbs, validEscTail_cons a _ ha, he rest]

/-- `txt` is read back as the name `v`, after which the consumer goes on with what follows
(one unit of fuel per code point of `v`) -/
def ReadsName (txt v : Str) : Prop :=
  ∀ f r, consumeName (v.length + f) (txt ++ r) = (v ++ (consumeName f r).1, (consumeName f r).2)

theorem ReadsName.nil : ReadsName [] [] := fun f r => by simp

theorem ReadsName.cons {plain : Char → Bool} {txt txt' v : Str} {c : Char} (h : Written plain txt c)
    (hp : plain c = true → isNameChar c = true) (h' : ReadsName txt' v) : ReadsName (txt ++ txt') (c :: v) := by
  intro f r
  rw [List.length_cons, Nat.add_right_comm, List.append_assoc, consumeName_written h hp, h' f r]
  rfl

theorem readsName_serializeName (s : Str) : ReadsName (serializeName s) s := by
  induction s with
  | nil => exact .nil
  | cons c cs ih => exact .cons (escName_written c) id ih

theorem ReadsName.rt {txt v : Str} (h : ReadsName txt v) (r : Str) (hr : stopsName r) (f : Nat)
    (hf : (txt ++ r).length ≤ f) : consumeName f (txt ++ r) = (v, r) := by
  rw [consumeName_fuel f _ hf, ← consumeName_fuel (v.length + (txt ++ r).length) _ (Nat.le_add_left _ _), h,
    consumeName_stop _ r hr]
  simp

/-! ## identifiers -/

theorem escIdentStart_written (c : Char) : Written isNameStart (escIdentStart c) c := by
  unfold escIdentStart
  by_cases h1 : (isLetter c || c = '_') = true
  · rw [if_pos h1]
    refine .inl ⟨rfl, ?_⟩
    simp [isNameStart] at *; grind
  rw [if_neg h1]
  refine .newlines fun h2 _ _ => ?_
  by_cases h5 : isDigit c = true
  · rw [if_pos h5]; exact .esc (escapeOf_hexUpper c (digit_range c h5).1 (digit_range c h5).2)
  rw [if_neg h5]
  by_cases h6 : c.toNat > 0x7F
  · rw [if_pos h6]; exact .inl ⟨rfl, by simp [isNameStart, h6]⟩
  rw [if_neg h6]
  simp only [Bool.or_eq_true, decide_eq_true_eq, not_or] at h1
  exact .esc (escapeOf_self c (not_hex_of c (by simpa using h1.1) (by simpa using h5)) h2)

theorem serializeIdentifier_cases {s t : Str} (hs : serializeIdentifier s = some t) :
    (s = ['-'] ∧ t = ['\\', '-']) ∨ (∃ rest, s = '-' :: '-' :: rest ∧ t = '-' :: '-' :: serializeName rest) ∨
    (∃ c rest, s = '-' :: c :: rest ∧ t = '-' :: (escIdentStart c ++ serializeName rest)) ∨
    (∃ c rest, s = c :: rest ∧ t = escIdentStart c ++ serializeName rest) := by
  unfold serializeIdentifier at hs
  split at hs
  · cases hs
  · cases hs; exact .inl ⟨rfl, rfl⟩
  · cases hs; exact .inr (.inl ⟨_, rfl, rfl⟩)
  · cases hs; exact .inr (.inr (.inl ⟨_, _, rfl, rfl⟩))
  · cases hs; exact .inr (.inr (.inr ⟨_, _, rfl, rfl⟩))

theorem readsName_serializeIdentifier {s t : Str} (hs : serializeIdentifier s = some t) : ReadsName t s := by
  have dash : Written isNameChar ['-'] '-' := .inl ⟨rfl, by decide⟩
  have start : ∀ c, isNameStart c = true → isNameChar c = true := fun c h => by simp [isNameChar, h]
  rcases serializeIdentifier_cases hs with ⟨rfl, rfl⟩ | ⟨rest, rfl, rfl⟩ | ⟨c, rest, rfl, rfl⟩ | ⟨c, rest, rfl, rfl⟩
  · exact .cons (plain := fun _ => false) (.inr ⟨_, rfl, escapeOf_self '-' (by decide) (by decide)⟩)
      (fun h => nomatch h) .nil
  · exact .cons dash id (.cons dash id (readsName_serializeName rest))
  · exact .cons dash id (.cons (escIdentStart_written c) (start c) (readsName_serializeName rest))
  · exact .cons (escIdentStart_written c) (start c) (readsName_serializeName rest)

theorem startsIdent_identStart (c : Char) (rest : Str) :
    startsIdent (escIdentStart c ++ rest) = true ∧ startsIdent ('-' :: (escIdentStart c ++ rest)) = true := by
  have h1 : isNameStart '\\' = false := by decide
  have h2 : isNameStart '-' = false := by decide
  rcases escIdentStart_written c with ⟨he, hn⟩ | ⟨tail, he, a, tl, rfl, ha, _⟩
  · rw [he]; simp [startsIdent, hn]
  · rw [he]; simp [startsIdent, validEscTail_cons a (tl ++ rest) ha, h1, h2]

theorem startsIdent_serializeIdentifier {s t : Str} (hs : serializeIdentifier s = some t) (r : Str) :
    startsIdent (t ++ r) = true := by
  rcases serializeIdentifier_cases hs with ⟨_, rfl⟩ | ⟨rest, _, rfl⟩ | ⟨c, rest, _, rfl⟩ | ⟨c, rest, _, rfl⟩
  · simp [startsIdent, validEscTail, isNameStart, isLetter]
  · simp [startsIdent, isNameStart, isLetter]
  · simpa using (startsIdent_identStart c (serializeName rest ++ r)).2
  · simpa using (startsIdent_identStart c (serializeName rest ++ r)).1

theorem ident_rt (s t r : Str) (hs : serializeIdentifier s = some t) (hr : stopsName r) :
    startsIdent (t ++ r) = true ∧ ∀ f, (t ++ r).length ≤ f → consumeName f (t ++ r) = (s, r) :=
  ⟨startsIdent_serializeIdentifier hs r, (readsName_serializeIdentifier hs).rt r hr⟩

/-! ## strings -/

/-- a code point that stands for itself inside a double-quoted string -/
def strPlain (c : Char) : Bool := c != '"' && c != '\n' && c != '\\'

theorem escString_written (c : Char) : Written strPlain (escString c) c := by
  unfold escString
  by_cases h1 : c = '"'
  · rw [if_pos h1]; exact .esc (h1 ▸ escapeOf_self '"' (by decide) (by decide))
  rw [if_neg h1]
  by_cases h2 : c = '\\'
  · rw [if_pos h2]; exact .esc (h2 ▸ escapeOf_self '\\' (by decide) (by decide))
  rw [if_neg h2]
  exact .newlines fun h3 _ _ => .inl ⟨rfl, by simp [strPlain, h1, h2, h3]⟩

theorem consumeString_written {txt : Str} {c : Char} (h : Written strPlain txt c) (f : Nat) (rest : Str) :
    consumeString '"' (f + 1) (txt ++ rest)
      = (c :: (consumeString '"' f rest).1, (consumeString '"' f rest).2) := by
  rcases h with ⟨rfl, hc⟩ | ⟨tail, rfl, a, tl, rfl, ha, he⟩
  · simp [strPlain] at hc
    simp [consumeString, hc]
  · simp only [List.cons_append]
    rw [consumeString]
    simp only [show ('\\' : Char) ≠ '"' by decide, show ('\\' : Char) ≠ '\n' by decide, if_false, if_true]
    simp [he rest]
    · intro h0; cases h0
    · intro cs' h0; cases h0; exact ha rfl

theorem consumeString_serializeString (s rest : Str) (f : Nat) :
    consumeString '"' (s.length + f) (serializeString s ++ rest)
      = (s ++ (consumeString '"' f rest).1, (consumeString '"' f rest).2) := by
  induction s with
  | nil => simp [serializeString]
  | cons c cs ih =>
    have hs : serializeString (c :: cs) ++ rest = escString c ++ (serializeString cs ++ rest) := by
      simp [serializeString]
    rw [hs, List.length_cons, Nat.add_right_comm, consumeString_written (escString_written c), ih]
    rfl

theorem string_rt (s r : Str) (f : Nat) (hf : (serializeString s ++ '"' :: r).length ≤ f) :
    consumeString '"' f (serializeString s ++ '"' :: r) = (s, .closed, r) := by
  rw [consumeString_fuel '"' f _ hf,
    ← consumeString_fuel '"' (s.length + ((serializeString s ++ '"' :: r).length + 1)) _ (by omega),
    consumeString_serializeString]
  simp [consumeString]

/-! ## urls -/

/-- a code point that stands for itself inside an unquoted url -/
def urlPlain (c : Char) : Bool := c != ')' && !isWs c && c != '\\' && !isUrlBad c

theorem escUrl_written (c : Char) (h0 : c ≠ '\x00') : Written urlPlain (escUrl c) c := by
  unfold escUrl
  by_cases h1 : c = '\''
  · rw [if_pos h1]; exact .esc (h1 ▸ escapeOf_self '\'' (by decide) (by decide))
  rw [if_neg h1]
  by_cases h2 : c = '"'
  · rw [if_pos h2]; exact .esc (h2 ▸ escapeOf_self '"' (by decide) (by decide))
  rw [if_neg h2]
  by_cases h3 : c = '\\'
  · rw [if_pos h3]; exact .esc (h3 ▸ escapeOf_self '\\' (by decide) (by decide))
  rw [if_neg h3]
  by_cases h4 : c = ' '
  · rw [if_pos h4]; exact .esc (h4 ▸ escapeOf_self ' ' (by decide) (by decide))
  rw [if_neg h4]
  by_cases h5 : c = '\t'
  · rw [if_pos h5]; exact .esc (h5 ▸ escapeOf_hex '9' [] '\t' (by decide) (by decide) (by decide))
  rw [if_neg h5]
  refine .newlines fun h6 _ _ => ?_
  by_cases h9 : c = '('
  · rw [if_pos h9]; exact .esc (h9 ▸ escapeOf_self '(' (by decide) (by decide))
  rw [if_neg h9]
  by_cases h10 : c = ')'
  · rw [if_pos h10]; exact .esc (h10 ▸ escapeOf_self ')' (by decide) (by decide))
  rw [if_neg h10]
  by_cases h11 : c.toNat ≤ 0x1F ∨ c.toNat = 0x7F
  · rw [if_pos h11]
    have hne : c.toNat ≠ 0 := fun h => h0 (by rw [← Char.ofNat_toNat c, h])
    exact .esc (escapeOf_hexUpper c hne (by omega))
  rw [if_neg h11]
  refine .inl ⟨rfl, ?_⟩
  simp only [not_or, Nat.not_le] at h11
  simp [urlPlain, isWs, isUrlBad, isNonPrintable, h1, h2, h3, h4, h5, h6, h9, h10]
  omega

theorem consumeUrlBody_written (q : Quirks) {txt : Str} {c : Char} (h : Written urlPlain txt c) (f : Nat)
    (rest : Str) :
    consumeUrlBody q (f + 1) (txt ++ rest)
      = (c :: (consumeUrlBody q f rest).1, (consumeUrlBody q f rest).2) := by
  rcases h with ⟨rfl, hc⟩ | ⟨tail, rfl, a, tl, rfl, ha, he⟩
  · simp [urlPlain] at hc
    simp [consumeUrlBody, hc]
  · simp [consumeUrlBody, isWs, validEscTail_cons a _ ha, he rest]

theorem consumeUrlBody_serializeUrl (q : Quirks) (s rest : Str) (h0 : ∀ c ∈ s, c ≠ '\x00') (f : Nat) :
    consumeUrlBody q (s.length + f) (serializeUrl s ++ rest)
      = (s ++ (consumeUrlBody q f rest).1, (consumeUrlBody q f rest).2) := by
  induction s with
  | nil => simp [serializeUrl]
  | cons c cs ih =>
    have hs : serializeUrl (c :: cs) ++ rest = escUrl c ++ (serializeUrl cs ++ rest) := by simp [serializeUrl]
    rw [hs, List.length_cons, Nat.add_right_comm, consumeUrlBody_written q (escUrl_written c (h0 c (by simp))),
      ih (fun x hx => h0 x (by simp [hx]))]
    rfl

theorem urlBody_rt (q : Quirks) (s r : Str) (h0 : ∀ c ∈ s, c ≠ '\x00') (f : Nat)
    (hf : (serializeUrl s ++ ')' :: r).length ≤ f) :
    consumeUrlBody q f (serializeUrl s ++ ')' :: r) = (s, .closed, r) := by
  rw [consumeUrlBody_fuel q f _ hf,
    ← consumeUrlBody_fuel q (s.length + ((serializeUrl s ++ ')' :: r).length + 1)) _ (by omega),
    consumeUrlBody_serializeUrl q s _ h0]
  simp [consumeUrlBody]

theorem url_head (s r : Str) (h0 : ∀ c ∈ s, c ≠ '\x00') :
    ∃ h t, serializeUrl s ++ ')' :: r = h :: t ∧ isWs h = false ∧ h ≠ '"' ∧ h ≠ '\'' := by
  cases s with
  | nil => exact ⟨')', r, by simp [serializeUrl], by decide, by decide, by decide⟩
  | cons c cs =>
    obtain ⟨a, tl, ha, hne⟩ := (escUrl_written c (h0 c (by simp))).head_ne
    refine ⟨a, tl ++ (serializeUrl cs ++ ')' :: r), by simp [serializeUrl, ha], ?_,
      hne '"' (by decide) (by decide), hne '\'' (by decide) (by decide)⟩
    have h1 := hne ' ' (by decide) (by decide)
    have h2 := hne '\t' (by decide) (by decide)
    have h3 := hne '\n' (by decide) (by decide)
    simp [isWs, h1, h2, h3]

theorem url_rt (q : Quirks) (pos : Nat) (s r : Str) (h0 : ∀ c ∈ s, c ≠ '\x00') :
    consumeUrl q pos (serializeUrl s ++ ')' :: r) = ([Tok.url pos s false], r) := by
  obtain ⟨h, t, hht, hws, _, _⟩ := url_head s r h0
  have htw : WR.C06.takeWhile isWs (serializeUrl s ++ ')' :: r) = ([], serializeUrl s ++ ')' :: r) := by
    rw [hht]; simp [WR.C06.takeWhile, hws]
  unfold consumeUrl
  simp only [htw]
  rw [urlBody_rt q s r h0 _ (Nat.le_refl _)]

/-! ## units of dimensions -/

theorem readsName_serializeUnit {u t : Str} (hs : serializeUnit u = some t) : ReadsName t u := by
  cases u with
  | nil => simp [serializeUnit] at hs
  | cons c rest =>
    simp only [serializeUnit] at hs
    split at hs
    · rename_i hcond
      simp only [Bool.and_eq_true, Bool.or_eq_true, decide_eq_true_eq] at hcond
      cases hs
      rcases hcond.1 with rfl | rfl
      · exact .cons (plain := fun _ => false)
          (.inr ⟨_, rfl, escapeOf_hex '6' ['5'] 'e' (by decide) (by decide) (by decide)⟩) (fun h => nomatch h)
          (readsName_serializeName rest)
      · exact .cons (plain := fun _ => false)
          (.inr ⟨_, rfl, escapeOf_hex '4' ['5'] 'E' (by decide) (by decide) (by decide)⟩) (fun h => nomatch h)
          (readsName_serializeName rest)
    · exact readsName_serializeIdentifier hs

theorem takeExp_inert (c h : Char) (t : Str) (h1 : h ≠ '+') (h2 : h ≠ '-') (h3 : isDigit h = false) :
    takeExp (c :: h :: t) = ([], c :: h :: t) := by
  simp [takeExp, takeSign, h1, h2, WR.C06.takeWhile, h3]

theorem takeExp_not_e (c : Char) (t : Str) (h1 : c ≠ 'e') (h2 : c ≠ 'E') : takeExp (c :: t) = ([], c :: t) := by
  simp [takeExp, h1, h2]

/-- the text written for a unit cannot be read as the exponent of the number before it: it starts
with `\`, with `-`, with a name-start code point other than `e`/`E`, or with `e`/`E` followed by
something that is neither a sign nor a digit -/
theorem takeExp_serializeUnit {u t : Str} (hs : serializeUnit u = some t) (r : Str) :
    takeExp (t ++ r) = ([], t ++ r) := by
  cases u with
  | nil => simp [serializeUnit] at hs
  | cons c rest =>
    simp only [serializeUnit] at hs
    split at hs
    · cases hs
      split <;> exact takeExp_not_e _ _ (by decide) (by decide)
    · rename_i hcond
      rcases serializeIdentifier_cases hs with ⟨_, rfl⟩ | ⟨_, _, rfl⟩ | ⟨_, _, _, rfl⟩ | ⟨c', rest', hu, rfl⟩
      · exact takeExp_not_e _ _ (by decide) (by decide)
      · exact takeExp_not_e _ _ (by decide) (by decide)
      · exact takeExp_not_e _ _ (by decide) (by decide)
      · cases hu
        rcases escIdentStart_written c with ⟨he, _⟩ | ⟨tail, he, _⟩
        · rw [he]
          by_cases hce : c = 'e' ∨ c = 'E'
          · have hne : expLike rest = false := by
              rcases hce with h | h <;> subst h <;> simpa using hcond
            cases rest with
            | nil => simp [expLike] at hne
            | cons d rest' =>
              simp only [expLike, Bool.or_eq_false_iff, decide_eq_false_iff_not] at hne
              obtain ⟨a, tl, ha, hh⟩ := (escName_written d).head
              have e : [c] ++ serializeName (d :: rest') ++ r = c :: a :: (tl ++ (serializeName rest' ++ r)) := by
                simp [serializeName, ha]
              rw [e]
              rcases hh with ⟨rfl, hn⟩ | rfl
              · exact takeExp_inert c a _ (fun h => by subst h; exact absurd hn (by decide)) hne.1 hne.2
              · exact takeExp_inert c '\\' _ (by decide) (by decide) (by decide)
          · simp only [not_or] at hce
            exact takeExp_not_e c _ hce.1 hce.2
        · rw [he]; exact takeExp_not_e _ _ (by decide) (by decide)

theorem unit_rt (u t r : Str) (hs : serializeUnit u = some t) (hr : stopsName r) :
    startsIdent (t ++ r) = true ∧ (∀ f, (t ++ r).length ≤ f → consumeName f (t ++ r) = (u, r)) ∧
    takeExp (t ++ r) = ([], t ++ r) := by
  refine ⟨?_, (readsName_serializeUnit hs).rt r hr, takeExp_serializeUnit hs r⟩
  cases u with
  | nil => simp [serializeUnit] at hs
  | cons c rest =>
    simp only [serializeUnit] at hs
    split at hs
    · cases hs
      split <;> simp [startsIdent, isNameStart, isLetter, validEscTail]
    · exact startsIdent_serializeIdentifier hs r

end WR.C20
