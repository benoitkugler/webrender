/-
  C20 — the representation of a number is stable under appended text that cannot continue a number.
-/
import WR.C06.Progress
namespace WR.C20
open WR.C06 List

/-- nothing, or a code point that is not a digit -/
def NoDigitNext (x : Str) : Prop := x = [] ∨ ∃ h t, x = h :: t ∧ isDigit h = false

theorem takeWhile_digits_stable (a x : Str) (hx : NoDigitNext x) :
    WR.C06.takeWhile isDigit (a ++ x) = ((WR.C06.takeWhile isDigit a).1, (WR.C06.takeWhile isDigit a).2 ++ x) := by
  induction a with
  | nil =>
    rcases hx with rfl | ⟨h, t, rfl, hh⟩
    · simp [WR.C06.takeWhile]
    · simp [WR.C06.takeWhile, hh]
  | cons c cs ih =>
    by_cases hc : isDigit c = true
    · simp [WR.C06.takeWhile, hc, ih]
    · simp [WR.C06.takeWhile, hc]

theorem takeSign_stable (a x : Str) (ha : a ≠ []) :
    takeSign (a ++ x) = ((takeSign a).1, (takeSign a).2 ++ x) := by
  cases a with
  | nil => exact absurd rfl ha
  | cons c cs =>
    by_cases hc : c = '+' ∨ c = '-'
    · simp [takeSign, hc]
    · simp [takeSign, hc]

theorem takeFrac_stable (a x : Str) (hx : NoDigitNext x) (hdot : ∀ t, x ≠ '.' :: t) :
    takeFrac (a ++ x) = ((takeFrac a).1, (takeFrac a).2 ++ x) := by
  have hx0 : takeFrac x = ([], x) := by
    unfold takeFrac; split
    · rename_i d cs; exact absurd rfl (hdot _)
    · rfl
  cases a with
  | nil => simpa [takeFrac] using hx0
  | cons c cs =>
    by_cases hc : c = '.'
    · subst hc
      cases cs with
      | nil =>
        rcases hx with rfl | ⟨h, t, rfl, hh⟩
        · simp [takeFrac]
        · simp [takeFrac, hh]
      | cons d ds =>
        by_cases hd : isDigit d = true
        · have := takeWhile_digits_stable (d :: ds) x hx
          simp only [List.cons_append] at this
          simp [takeFrac, hd, this]
        · simp [takeFrac, hd]
    · have : ∀ y, takeFrac (c :: y) = ([], c :: y) := by
        intro y; unfold takeFrac; split
        · rename_i heq; simp at heq; exact absurd heq.1 hc
        · rfl
      simp [this]

theorem takeExp_stable (a x : Str) (hx : NoDigitNext x) (hx2 : takeExp x = ([], x)) (ha : (takeExp a).2 = []) :
    takeExp (a ++ x) = ((takeExp a).1, x) := by
  cases a with
  | nil => simpa [takeExp] using hx2
  | cons c cs =>
    by_cases hc : c = 'e' ∨ c = 'E'
    · cases cs with
      | nil => simp [takeExp, hc, takeSign, WR.C06.takeWhile] at ha
      | cons k ks =>
        have hs := takeSign_stable (k :: ks) x (by simp)
        have hd := takeWhile_digits_stable (takeSign (k :: ks)).2 x hx
        simp only [List.cons_append] at hs ⊢
        simp only [takeExp, hc, if_true, hs, hd] at ha ⊢
        split
        · rename_i he
          rw [if_pos he] at ha
          simp at ha
        · rename_i he
          rw [if_neg he] at ha
          simp only at ha
          simp [ha]
    · simp [takeExp, hc] at ha

/-- what may follow a number without being absorbed into it -/
def NumStop (x : Str) : Prop := NoDigitNext x ∧ (∀ t, x ≠ '.' :: t) ∧ takeExp x = ([], x)

theorem number_stable (repr x : Str) (flag : Bool) (h : consumeNumber repr = some (repr, flag, []))
    (hx : NumStop x) : consumeNumber (repr ++ x) = some (repr, flag, x) := by
  obtain ⟨hx1, hx2, hx3⟩ := hx
  have hne : repr ≠ [] := (consumeNumber_append repr repr [] flag h).2
  unfold consumeNumber at h ⊢
  simp only [] at h ⊢
  have e1 := takeSign_stable repr x hne
  have e2 := takeWhile_digits_stable (takeSign repr).2 x hx1
  have e3 := takeFrac_stable (WR.C06.takeWhile isDigit (takeSign repr).2).2 x hx1 hx2
  simp only [e1, e2, e3]
  split at h
  · cases h
  · rename_i hcond
    rw [if_neg hcond]
    simp only [Option.some.injEq, Prod.mk.injEq] at h
    obtain ⟨hr, hf, hrest⟩ := h
    have e4 := takeExp_stable _ x hx1 hx3 hrest
    simp only [e4, hr, hf]

theorem takeFrac_nonempty (y : Str) (h : (takeFrac y).1 ≠ []) : ∃ t, y = '.' :: t := by
  unfold takeFrac at h
  split at h
  · exact ⟨_, rfl⟩
  · exact absurd rfl h

theorem number_head (repr : Str) (flag : Bool) (rest : Str) (h : consumeNumber repr = some (repr, flag, rest)) :
    ∃ c t, repr = c :: t ∧ (isDigit c = true ∨ c = '.' ∨
      ((c = '+' ∨ c = '-') ∧ ∃ k t', t = k :: t' ∧ (isDigit k = true ∨ k = '.'))) := by
  cases repr with
  | nil => simp [consumeNumber, takeSign, WR.C06.takeWhile, takeFrac] at h
  | cons c t =>
    refine ⟨c, t, rfl, ?_⟩
    unfold consumeNumber at h
    simp only [] at h
    split at h
    · cases h
    · rename_i hcond
      by_cases hs : c = '+' ∨ c = '-'
      · right; right
        refine ⟨hs, ?_⟩
        simp only [takeSign, hs, if_true] at hcond
        cases t with
        | nil => simp [WR.C06.takeWhile, takeFrac] at hcond
        | cons k t' =>
          refine ⟨k, t', rfl, ?_⟩
          by_cases hk : isDigit k = true
          · exact Or.inl hk
          · right
            simp only [WR.C06.takeWhile, hk, Bool.false_eq_true, if_false, List.isEmpty_nil, Bool.true_and] at hcond
            have : (takeFrac (k :: t')).1 ≠ [] := by
              intro h0; apply hcond; simp [h0]
            obtain ⟨t'', ht⟩ := takeFrac_nonempty _ this
            simp at ht; exact ht.1
      · simp only [takeSign, hs, if_false] at hcond
        by_cases hk : isDigit c = true
        · exact Or.inl hk
        · right; left
          simp only [WR.C06.takeWhile, hk, Bool.false_eq_true, if_false, List.isEmpty_nil, Bool.true_and] at hcond
          have : (takeFrac (c :: t)).1 ≠ [] := by
            intro h0; apply hcond; simp [h0]
          obtain ⟨t'', ht⟩ := takeFrac_nonempty _ this
          simp at ht; exact ht.1

end WR.C20
