/-
  C19 — termination of the extends / fallback resolution: the fuel of `resolveLoop`, `rvLoop` and
  `renderValue` is never exhausted (for every value a Go int can hold whose negation it can hold too,
  and when "decimal" is the plain numeric style — author rules cannot redefine it, css/validation
  ParseCounterStyleName).
-/
import WR.C19.Model
namespace WR.C19

/-- number of table entries whose name has not been visited -/
def unvisited : Table → List String → Nat
  | [], _ => 0
  | (k, _) :: rest, prev => (if prev.contains k then 0 else 1) + unvisited rest prev

theorem unvisited_le : ∀ (c : Table) (prev : List String), unvisited c prev ≤ c.length
  | [], _ => by simp [unvisited]
  | (k, _) :: rest, prev => by
    have := unvisited_le rest prev
    simp only [unvisited, List.length_cons]; split <;> omega

theorem contains_cons_of (s k : String) (prev : List String) (h : prev.contains k = true) :
    (s :: prev).contains k = true := by
  simp only [List.contains_cons, h, Bool.or_true]

theorem unvisited_cons_le : ∀ (c : Table) (s : String) (prev : List String),
    unvisited c (s :: prev) ≤ unvisited c prev
  | [], _, _ => by simp [unvisited]
  | (k, _) :: rest, s, prev => by
    have ih := unvisited_cons_le rest s prev
    simp only [unvisited]
    by_cases h : prev.contains k = true
    · rw [if_pos h, if_pos (contains_cons_of s k prev h)]; omega
    · rw [if_neg h]; split <;> omega

theorem unvisited_cons_lt : ∀ (c : Table) (s : String) (prev : List String) (e : Desc),
    c.get? s = some e → prev.contains s = false → unvisited c (s :: prev) < unvisited c prev
  | [], _, _, _, hf, _ => by simp [Table.get?, List.lookup] at hf
  | (k, d) :: rest, s, prev, e, hf, hn => by
    simp only [Table.get?, List.lookup] at hf
    have hle := unvisited_cons_le rest s prev
    simp only [unvisited]
    by_cases hk : s = k
    · subst hk
      have h1 : (s :: prev).contains s = true := by simp
      rw [if_pos h1, hn]; simp; omega
    · have hb : (s == k) = false := by simpa using hk
      rw [hb] at hf
      have ih := unvisited_cons_lt rest s prev e hf hn
      by_cases h : prev.contains k = true
      · rw [if_pos h, if_pos (contains_cons_of s k prev h)]; omega
      · rw [if_neg h]; split <;> omega

/-- the plain numeric style: what `DecOK` asks of "decimal" -/
def IsDec (d : Desc) : Prop :=
  d.sys.ext = "" ∧ d.sys.system = "numeric" ∧ 2 ≤ d.symbols.length ∧ (d.rangeAuto || d.rangeIsNone) = true

/-- "decimal" is the plain numeric style (or absent) -/
def DecOK (c : Table) : Prop :=
  ∀ d, c.get? "decimal" = some d →
    d.sys.ext = "" ∧ d.sys.system = "numeric" ∧ 2 ≤ d.symbols.length ∧ (d.rangeAuto || d.rangeIsNone) = true

theorem DecOK.isDec {c : Table} (h : DecOK c) {e : Desc} (hd : c.get? "decimal" = some e) : IsDec e := h e hd

theorem sys3_ext (d : Desc) : d.sys3.1 = d.sys.ext := by
  unfold Desc.sys3
  split
  · rename_i h; simp [h, Sys.zero]
  · rfl

/-! ### resolveLoop -/

theorem resolveLoop_done (c : Table) (fuel : Nat) (d : Desc) (prev : List String) (system : String) :
    resolveLoop c (fuel + 1) d prev "" system = .found d prev := by
  simp [resolveLoop]

/-- one iteration, with the `extends, system, _` triple read through its projections -/
theorem resolveLoop_succ (c : Table) (fuel : Nat) (d : Desc) (prev : List String) (ext system : String) :
    resolveLoop c (fuel + 1) d prev ext system =
      if ext = "" then .found d prev
      else match c.get? system with
        | none => .found d prev
        | some e =>
          if ({ d with sys := e.sys } : Desc).sys3.1 ≠ "" ∧
              (system :: prev).contains ({ d with sys := e.sys } : Desc).sys3.2.1 then
            resolveLoop c fuel { d with sys := e.sys } (system :: prev) "extends" "decimal"
          else resolveLoop c fuel (({ d with sys := e.sys } : Desc).merge e) (system :: prev)
            ({ d with sys := e.sys } : Desc).sys3.1 ({ d with sys := e.sys } : Desc).sys3.2.1 := rfl

/-- a style was found, and at most `k` table entries are still unvisited -/
inductive RC.Found (c : Table) (k : Nat) : RC → Prop
  | mk (d : Desc) {p : List String} (h : unvisited c p ≤ k) : RC.Found c k (.found d p)

theorem RC.Found.mono {c : Table} {k k' : Nat} {r : RC} (h : r.Found c k) (hk : k ≤ k') : r.Found c k' := by
  cases h with
  | mk d h => exact .mk d (Nat.le_trans h hk)

/-- the redirection to "decimal" ends after one more iteration: "decimal" does not extend -/
theorem resolveLoop_decimal (c : Table) (h : DecOK c) (fuel : Nat) (d : Desc) (prev : List String) :
    (resolveLoop c (fuel + 2) d prev "extends" "decimal").Found c (unvisited c prev) := by
  rw [resolveLoop_succ, if_neg (by decide)]
  cases hd : c.get? "decimal" with
  | none => exact .mk d (Nat.le_refl _)
  | some e =>
    have h3 : ({ d with sys := e.sys } : Desc).sys3.1 = "" := by rw [sys3_ext]; exact (h.isDec hd).1
    simp only [h3, ne_eq, not_true_eq_false, false_and, if_false, resolveLoop_done]
    exact .mk _ (unvisited_cons_le c _ prev)

/-- the `extends` loop finds a style within `unvisited + 3` iterations when it starts on a style not yet
    visited (each iteration then visits a new table entry), and with one more from any start -/
theorem resolveLoop_found (c : Table) (h : DecOK c) : ∀ (fuel : Nat) (d : Desc) (prev : List String) (ext system : String),
    (ext ≠ "" → prev.contains system = false) ∨ unvisited c prev + 4 ≤ fuel → unvisited c prev + 3 ≤ fuel →
    (resolveLoop c fuel d prev ext system).Found c (unvisited c prev) := by
  intro fuel
  induction fuel with
  | zero => intro d prev ext system _ hf; omega
  | succ n ih =>
    intro d prev ext system hfresh hf
    rw [resolveLoop_succ]
    by_cases he : ext = ""
    · rw [if_pos he]; exact .mk d (Nat.le_refl _)
    · rw [if_neg he]
      cases hd : c.get? system with
      | none => exact .mk d (Nat.le_refl _)
      | some e =>
        have hle := unvisited_cons_le c system prev
        have hn : unvisited c (system :: prev) + 3 ≤ n := by
          rcases hfresh with hfr | h4
          · have := unvisited_cons_lt c system prev e hd (hfr he); omega
          · omega
        simp only
        split
        · obtain ⟨m, rfl⟩ : ∃ m, n = m + 2 := ⟨n - 2, by omega⟩
          exact (resolveLoop_decimal c h m _ _).mono hle
        · rename_i hc
          refine (ih _ _ _ _ (.inl fun ha => ?_) hn).mono hle
          have : ¬ ((system :: prev).contains _ = true) := fun hb => hc ⟨ha, hb⟩
          simpa using this

theorem resolveLoop_total (c : Table) (h : DecOK c) (d : Desc) (prev : List String) (ext system : String)
    (fuel : Nat) (hf : unvisited c prev + 4 ≤ fuel) :
    (resolveLoop c fuel d prev ext system).Found c (unvisited c prev) :=
  resolveLoop_found c h fuel d prev ext system (.inr hf) (by omega)

theorem resolveCounter_ne_diverge (c : Table) (h : DecOK c) (name : String) (prev : Option (List String)) :
    resolveCounter c name prev = .nil ∨
      ∃ k, k < unvisited c (prev.getD []) ∧ (resolveCounter c name prev).Found c k := by
  have key : ∀ (e : Desc) (p : List String), c.get? name = some e → p.contains name = false →
      ∃ k, k < unvisited c p ∧ (resolveLoop c (loopFuel c) e (name :: p) e.sys3.1 e.sys3.2.1).Found c k :=
    fun e p hd hp => ⟨_, unvisited_cons_lt c name p e hd hp, resolveLoop_total c h _ _ _ _ _ (by
      have := unvisited_le c (name :: p); simp only [loopFuel]; omega)⟩
  unfold resolveCounter
  cases hd : c.get? name with
  | none => exact .inl rfl
  | some e =>
    cases prev with
    | none => exact .inr (key e [] hd rfl)
    | some p =>
      by_cases hp : p.contains name = true
      · exact .inl (by simp only [if_pos hp])
      · simp only [if_neg hp, Option.getD_some]
        exact .inr (key e p hd (by simpa using hp))

/-! ### rvLoop -/

theorem rvLoop_succ (c : Table) (fuel : Nat) (d : Desc) (prev : List String) (ext system : String) (num : Int) :
    rvLoop c (fuel + 1) d prev ext system num =
      if ext = "" then .done d prev system num
      else match c.get? system with
        | none => .decimal
        | some e =>
          if prev.contains ({ d with sys := e.sys } : Desc).sys3.2.1 then .decimal
          else rvLoop c fuel (({ d with sys := e.sys } : Desc).merge e)
            (({ d with sys := e.sys } : Desc).sys3.2.1 :: prev) ({ d with sys := e.sys } : Desc).sys3.1
            ({ d with sys := e.sys } : Desc).sys3.2.1 ({ d with sys := e.sys } : Desc).sys3.2.2 := rfl

/-- the loop ended (not out of fuel), with no more unvisited table entries than under `prev` -/
inductive RV.Ok (c : Table) (prev : List String) : RV → Prop
  | decimal : RV.Ok c prev .decimal
  | done (d : Desc) {p : List String} (s : String) (n : Int) (h : unvisited c p ≤ unvisited c prev) :
      RV.Ok c prev (.done d p s n)

theorem RV.Ok.cons {c : Table} {s : String} {prev : List String} {r : RV} (h : r.Ok c (s :: prev)) : r.Ok c prev := by
  cases h with
  | decimal => exact .decimal
  | done d s n h => exact .done d s n (Nat.le_trans h (unvisited_cons_le c _ prev))

theorem rvLoop_ok (c : Table) : ∀ (fuel : Nat) (d : Desc) (prev : List String) (ext system : String) (num : Int),
    unvisited c prev + 2 ≤ fuel → (rvLoop c fuel d prev ext system num).Ok c prev := by
  intro fuel
  induction fuel with
  | zero => intro d prev ext system num hf; omega
  | succ n ih =>
    intro d prev ext system num hf
    rw [rvLoop_succ]
    split
    · exact .done _ _ _ (Nat.le_refl _)
    · cases hd : c.get? system with
      | none => exact .decimal
      | some e =>
        simp only
        split
        · exact .decimal
        · rename_i hc
          -- the next style is visited now; if it is not in the table the loop ends at the next iteration
          cases hb : c.get? ({ d with sys := e.sys } : Desc).sys3.2.1 with
          | some eb =>
            have hlt := unvisited_cons_lt c _ prev eb hb (by simpa using hc)
            exact (ih _ _ _ _ _ (by omega)).cons
          | none =>
            obtain ⟨m, rfl⟩ : ∃ m, n = m + 1 := ⟨n - 1, by omega⟩
            rw [rvLoop_succ, hb]
            split
            · exact .done _ _ _ (unvisited_cons_le c _ prev)
            · exact .decimal

/-! ### renderValue -/

/-- the values of a Go int (64-bit) other than math.MinInt (whose absolute value overflows) -/
def Bd (v : Int) : Prop := -maxInt ≤ v ∧ v ≤ maxInt

theorem Bd_natAbs (v : Int) (h : Bd v) : Bd (v.natAbs : Int) := by
  unfold Bd maxInt at *; omega

theorem isDec_sys3 (d : Desc) (h : IsDec d) : d.sys3 = ("", "numeric", d.sys.number) := by
  have hz : d.sys ≠ Sys.zero := by
    intro hz; have := h.2.1; rw [hz] at this; simp [Sys.zero] at this
  simp only [Desc.sys3, hz, if_false, h.1, h.2.1]

theorem resolveCounter_decimal (c : Table) (h : DecOK c) :
    resolveCounter c "decimal" none =
      match c.get? "decimal" with
      | some e => .found e ["decimal"]
      | none => .nil := by
  unfold resolveCounter
  cases hd : c.get? "decimal" with
  | none => rfl
  | some e =>
    simp only [Bool.false_eq_true, if_false, isDec_sys3 e (h.isDec hd), loopFuel, resolveLoop_done]
    rfl

theorem numeric_ne_no (symbols : List NS) (v : Int) (h : 2 ≤ symbols.length) : numeric symbols v ≠ .no := by
  unfold numeric
  rw [if_neg (by omega)]
  split
  · split <;> simp
  · split <;> simp

theorem stepValue_decimal (c : Table) (d : Desc) (hd : IsDec d) (v : Int) (hv : Bd v) :
    ∃ o, stepValue c v (some d) none = .ret o ∧ o ≠ .diverge := by
  have hr : inRanges (effRanges d "numeric") v = true := by
    simp only [effRanges, hd.2.2.2, if_true]
    unfold Bd at hv
    simp [inRanges, minInt, maxInt] at hv ⊢
    omega
  simp only [stepValue, stepResolved, isDec_sys3 d hd, loopFuel, rvLoop, if_true, hr, Bool.not_true, Bool.false_eq_true,
    if_false]
  generalize (if (decide (v < 0) && usesNegative "numeric") = true then (v.natAbs : Int) else v) = w
  have hs : systemStep d "numeric" d.sys.number w = ofRes (numeric d.symbols w) .decimal := by
    simp [systemStep]
  rw [hs]
  have hn := numeric_ne_no d.symbols w hd.2.2.1
  cases hx : numeric d.symbols w with
  | ok s => exact ⟨_, rfl, by simp⟩
  | no => exact absurd hx hn
  | panic w => exact ⟨_, rfl, by simp⟩

/-- what one activation may do: return (not for lack of fuel), or call on with a value a Go int holds
    and no more unvisited styles than under `p0` -/
inductive Next.Ok (c : Table) (p0 : List String) : Next → Prop
  | ret {o : Out} (h : o ≠ .diverge) : Next.Ok c p0 (.ret o)
  | decimal {w : Int} (h : Bd w) : Next.Ok c p0 (.decimal w)
  | fallback (name : String) {p : List String} {w : Int} (h : Bd w) (hp : unvisited c p ≤ unvisited c p0) :
      Next.Ok c p0 (.fallback name p w)

theorem stepResolved_ok (c : Table) (v : Int) (hv : Bd v) (d : Desc) (p0 : List String) (ext system : String)
    (number : Int) : (stepResolved c v d p0 ext system number).Ok c p0 := by
  have hok := rvLoop_ok c (loopFuel c) d p0 ext system number
    (by have := unvisited_le c p0; simp only [loopFuel]; omega)
  simp only [stepResolved]
  generalize rvLoop c (loopFuel c) d p0 ext system number = r at hok
  cases hok with
  | decimal => exact .decimal hv
  | done d' s' n' hp =>
    simp only
    split
    · exact .fallback _ hv hp
    · cases systemStep d' s' n' _ with
      | initial s => exact .ret (by simp)
      | decimal => exact .decimal hv
      | fallback => exact .fallback _ hv hp
      | panic m => exact .ret (by simp)

theorem stepValue_ok (c : Table) (v : Int) (hv : Bd v) (counter : Option Desc) (prev : Option (List String)) :
    (stepValue c v counter prev).Ok c (prev.getD []) := by
  cases counter with
  | none =>
    simp only [stepValue]
    split
    · exact .decimal hv
    · exact .ret (by simp)
  | some d =>
    cases prev with
    | none =>
      simp only [stepValue, Bool.false_eq_true, if_false]
      exact stepResolved_ok c v hv d _ _ _ _
    | some pp =>
      simp only [stepValue]
      split
      · exact .decimal hv
      · exact stepResolved_ok c v hv d _ _ _ _

/-- the tail call `c.RenderValue(w, "decimal")` returns -/
theorem render_decimal_call (c : Table) (h : DecOK c) (w : Int) (hw : Bd w) (n : Nat) (hn : 1 ≤ n) :
    (match resolveCounter c "decimal" none with
      | .diverge => Out.diverge
      | .nil => renderValue c n w none none
      | .found d _ => renderValue c n w (some d) none) ≠ .diverge := by
  obtain ⟨m, rfl⟩ : ∃ m, n = m + 1 := ⟨n - 1, by omega⟩
  rw [resolveCounter_decimal c h]
  cases hd : c.get? "decimal" with
  | none => simp [renderValue, stepValue, hd]
  | some e =>
    obtain ⟨o, ho, hne⟩ := stepValue_decimal c e (h.isDec hd) w hw
    simp only [renderValue, ho]; exact hne

theorem render_nil (c : Table) (h : DecOK c) (w : Int) (hw : Bd w) (m : Nat) (hm : 1 ≤ m) (prev : Option (List String)) :
    renderValue c (m + 1) w none prev ≠ .diverge := by
  by_cases hdc : (c.get? "decimal").isSome = true
  · simp only [renderValue, stepValue, hdc, if_true]; exact render_decimal_call c h w hw m hm
  · simp [renderValue, stepValue, hdc]

/-- `renderValue` never runs out of fuel: the fallback / extends resolution terminates -/
theorem renderValue_ne_diverge (c : Table) (h : DecOK c) : ∀ (fuel : Nat) (v : Int) (counter : Option Desc)
    (prev : Option (List String)), Bd v → unvisited c (prev.getD []) + 3 ≤ fuel →
    renderValue c fuel v counter prev ≠ .diverge := by
  intro fuel
  induction fuel with
  | zero => intro v counter prev _ hf; omega
  | succ n ih =>
    intro v counter prev hv hf
    have hok := stepValue_ok c v hv counter prev
    simp only [renderValue]
    generalize stepValue c v counter prev = nx at hok
    cases hok with
    | ret hne => exact hne
    | decimal hb => exact render_decimal_call c h _ hb n (by omega)
    | @fallback name p w hb hp =>
      simp only
      rcases resolveCounter_ne_diverge c h name (some p) with h1 | ⟨k, hk, h1⟩
      · obtain ⟨m, rfl⟩ : ∃ m, n = m + 1 := ⟨n - 1, by omega⟩
        rw [h1]
        exact render_nil c h w hb m (by omega) _
      · -- the fallback style had not been visited: one unvisited entry less
        generalize resolveCounter c name (some p) = r at h1
        cases h1 with
        | mk d hle => exact ih _ _ _ hb (by simp only [Option.getD_some] at hk ⊢; omega)

theorem renderValue_start (c : Table) (h : DecOK c) (v : Int) (hv : Bd v) (counter : Option Desc) :
    renderValue c (renderFuel c) v counter none ≠ .diverge :=
  renderValue_ne_diverge c h _ v counter none hv
    (by have := unvisited_le c []; simp only [renderFuel, Option.getD_none]; omega)

theorem markerOf_ne_diverge (c : Table) (h : DecOK c) (v : Int) (hv : Bd v) (d : Desc) :
    markerOf c v d ≠ .diverge := by
  have := renderValue_start c h v hv (some d)
  unfold markerOf
  cases hx : renderValue c (renderFuel c) v (some d) none with
  | ok s => simp
  | panic w => simp
  | diverge => exact absurd hx this

theorem resolveCounterStyle_named (c : Table) (id : CSID) (hid : id.type = "") (prev : Option (List String)) :
    resolveCounterStyle c id prev = resolveCounter c id.name prev := by
  simp [resolveCounterStyle, hid]

end WR.C19
