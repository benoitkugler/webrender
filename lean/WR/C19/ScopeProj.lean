/-
  C19 — the per-name view of a CSS Lists 3 counters set (Spec.lean).

  `proj s n` = the (value, creator) pairs of the counters named `n`, outermost first.  Every operation
  of the standard acts on the list of one name and leaves the others alone (`proj_instantiate`,
  `proj_touch`, `proj_applyOps`), so the tree-level proofs reason name by name.
-/
import WR.C19.Spec
namespace WR.C19

def proj (s : CSet) (n : String) : List (Int × Nat) :=
  (s.filter (fun k => k.name = n)).map (fun k => (k.value, k.creator))

abbrev PL := List (Int × Nat)

theorem proj_nil (n : String) : proj [] n = [] := rfl

theorem proj_append (s s' : CSet) (n : String) : proj (s ++ s') n = proj s n ++ proj s' n := by
  simp [proj]

theorem proj_cons (k : Ctr) (rest : CSet) (n : String) :
    proj (k :: rest) n = (if k.name = n then [(k.value, k.creator)] else []) ++ proj rest n := by
  unfold proj
  by_cases h : k.name = n <;> simp [h]

theorem proj_append_one (s : CSet) (k : Ctr) (n : String) :
    proj (s ++ [k]) n = proj s n ++ (if k.name = n then [(k.value, k.creator)] else []) := by
  rw [proj_append, proj_cons, proj_nil, List.append_nil]

theorem proj_single (k : Ctr) (n : String) : proj [k] n = if k.name = n then [(k.value, k.creator)] else [] := by
  rw [proj_cons, proj_nil, List.append_nil]

theorem values_eq_proj (s : CSet) (n : String) : CSet.values s n = (proj s n).map (·.1) := by
  unfold CSet.values proj
  simp [List.map_map, Function.comp_def]

theorem hasNamed_eq_false (s : CSet) (n : String) : hasNamed s n = false ↔ proj s n = [] := by
  simp [hasNamed, proj, List.filter_eq_nil_iff]

theorem snoc_cases {α} (l : List α) : l = [] ∨ ∃ l' a, l = l' ++ [a] := by
  rcases List.eq_nil_or_concat l with h | ⟨l', a, h⟩
  · exact .inl h
  · exact .inr ⟨l', a, by rw [h, List.concat_eq_append]⟩

/-- replace the innermost (last) pair `vc` by the list `g vc` -/
def alterLast (g : Int × Nat → PL) (l : PL) : PL :=
  match l.getLast? with
  | some vc => l.dropLast ++ g vc
  | none => l

@[simp] theorem alterLast_nil (g : Int × Nat → PL) : alterLast g [] = [] := rfl

@[simp] theorem alterLast_snoc (g : Int × Nat → PL) (l : PL) (a : Int × Nat) : alterLast g (l ++ [a]) = l ++ g a := by
  simp [alterLast]

theorem alterLast_cons (g : Int × Nat → PL) (x : Int × Nat) {l : PL} (h : l ≠ []) :
    alterLast g (x :: l) = x :: alterLast g l := by
  rcases snoc_cases l with rfl | ⟨l', a, rfl⟩
  · exact absurd rfl h
  · rw [← List.cons_append, alterLast_snoc, alterLast_snoc, List.cons_append]

/-- the shape `dropInnermostIf` and `modifyInnermost` share: the innermost counter of that name is
    replaced by the counters `g` makes of it -/
def alterInnermost (name : String) (g : Ctr → CSet) : CSet → CSet
  | [] => []
  | k :: rest =>
    if k.name = name ∧ hasNamed rest name = false then g k ++ rest else k :: alterInnermost name g rest

theorem dropInnermostIf_eq (name : String) (p : Ctr → Bool) : ∀ s : CSet,
    dropInnermostIf name p s = alterInnermost name (fun k => if p k then [] else [k]) s
  | [] => rfl
  | k :: rest => by
    rw [dropInnermostIf, alterInnermost, dropInnermostIf_eq name p rest]
    cases p k <;> rfl

theorem modifyInnermost_eq (name : String) (f : Int → Int) : ∀ s : CSet,
    modifyInnermost name f s = alterInnermost name (fun k => [{ k with value := f k.value }]) s
  | [] => rfl
  | k :: rest => by rw [modifyInnermost, alterInnermost, modifyInnermost_eq name f rest]; rfl

theorem proj_alterInnermost {name : String} {g : Ctr → CSet} {gp : Int × Nat → PL}
    (hg : ∀ k n, k.name = name → proj (g k) n = if n = name then gp (k.value, k.creator) else []) (n : String) :
    ∀ s : CSet, proj (alterInnermost name g s) n = if n = name then alterLast gp (proj s name) else proj s n
  | [] => by simp [alterInnermost, proj_nil]
  | k :: rest => by
    rw [alterInnermost]
    by_cases hc : k.name = name ∧ hasNamed rest name = false
    · have hr := (hasNamed_eq_false rest name).mp hc.2
      rw [if_pos hc, proj_append, hg k n hc.1, proj_cons, proj_cons, hr, if_pos hc.1]
      by_cases hn : n = name
      · subst hn; simp [hr, alterLast]
      · have hn' : ¬ name = n := fun e => hn e.symm
        simp [hn, hn', hc.1]
    · rw [if_neg hc, proj_cons, proj_alterInnermost hg n rest, proj_cons, proj_cons]
      by_cases hn : n = name
      · subst hn
        by_cases hk : k.name = n
        · have hne : proj rest n ≠ [] := fun h0 => hc ⟨hk, (hasNamed_eq_false rest n).mpr h0⟩
          simp [hk, alterLast_cons _ _ hne]
        · simp [hk]
      · simp [hn]

/-! ### the two operations, on the list of one name -/

/-- counter-reset -/
def opReset (ids : List Nat) (self : Nat) (v : Int) (l : PL) : PL :=
  alterLast (fun vc => if ids.contains vc.2 then [] else [vc]) l ++ [(v, self)]

/-- counter-increment / counter-set -/
def opTouch (self : Nat) (f : Int → Int) (l : PL) : PL :=
  if l = [] then [(f 0, self)] else alterLast (fun vc => [(f vc.1, vc.2)]) l

theorem proj_instantiate (s : CSet) (self : Nat) (sibs : List Nat) (name : String) (v : Int) (n : String) :
    proj (instantiate s self sibs name v) n =
      if n = name then opReset (self :: sibs) self v (proj s name) else proj s n := by
  rw [instantiate, proj_append_one, dropInnermostIf_eq,
    proj_alterInnermost (gp := fun vc => if (self :: sibs).contains vc.2 then [] else [vc])]
  · by_cases hn : n = name
    · subst hn; simp [opReset]
    · have hn' : ¬ name = n := fun e => hn e.symm
      simp [hn, hn']
  · intro k n hk
    have hn' : (name = n) = (n = name) := propext eq_comm
    by_cases hn : n = name <;> split <;> simp [hn, hn', proj_cons, proj_nil, hk]

theorem proj_touch (s : CSet) (self : Nat) (sibs : List Nat) (name : String) (f : Int → Int) (n : String) :
    proj (touch s self sibs name f) n = if n = name then opTouch self f (proj s name) else proj s n := by
  rw [touch]
  by_cases hh : hasNamed s name = true
  · have hne : proj s name ≠ [] := fun h0 => by rw [(hasNamed_eq_false s name).mpr h0] at hh; cases hh
    rw [if_pos hh, modifyInnermost_eq, proj_alterInnermost (gp := fun vc => [(f vc.1, vc.2)]), opTouch, if_neg hne]
    intro k n hk
    have hn' : (name = n) = (n = name) := propext eq_comm
    by_cases hn : n = name <;> simp [hn, hn', proj_cons, proj_nil, hk]
  · have he := (hasNamed_eq_false s name).mp (by simpa using hh)
    rw [if_neg hh, proj_append_one, opTouch, he]
    by_cases hn : n = name
    · subst hn; simp [he]
    · have hn' : ¬ name = n := fun e => hn e.symm
      simp [hn, hn']

theorem opReset_nil {ids : List Nat} {self : Nat} {v : Int} : opReset ids self v [] = [(v, self)] := rfl

theorem opReset_pos {ids : List Nat} {self : Nat} {v : Int} {l' : PL} {a : Int × Nat} (hq : a.2 ∈ ids) :
    opReset ids self v (l' ++ [a]) = l' ++ [(v, self)] := by
  simp [opReset, hq]

theorem opReset_neg {ids : List Nat} {self : Nat} {v : Int} {l' : PL} {a : Int × Nat} (hq : a.2 ∉ ids) :
    opReset ids self v (l' ++ [a]) = (l' ++ [a]) ++ [(v, self)] := by
  simp [opReset, hq]

theorem opTouch_nil {self : Nat} {f : Int → Int} : opTouch self f [] = [(f 0, self)] := rfl

theorem opTouch_snoc {self : Nat} {f : Int → Int} {l' : PL} {a : Int × Nat} :
    opTouch self f (l' ++ [a]) = l' ++ [(f a.1, a.2)] := by
  simp [opTouch]

/-- `applyOps` (reset, increment, set) on the list of the name `n` -/
def opsOn (self : Nat) (ids : List Nat) (o : Ops) (n : String) (l : PL) : PL :=
  let l := o.reset.foldl (fun l p => if n = p.1 then opReset (self :: ids) self p.2 l else l) l
  let l := o.increments.foldl (fun l p => if n = p.1 then opTouch self (· + p.2) l else l) l
  o.set.foldl (fun l p => if n = p.1 then opTouch self (fun _ => p.2) l else l) l

theorem proj_applyOps (s : CSet) (self : Nat) (ids : List Nat) (o : Ops) (n : String) :
    proj (applyOps false s self ids o) n = opsOn self ids o n (proj s n) := by
  have hi : ∀ (p : String × Int) (X : CSet), proj (instantiate X self ids p.1 p.2) n =
      if n = p.1 then opReset (self :: ids) self p.2 (proj X n) else proj X n := by
    intro p X; rw [proj_instantiate]; split
    · rename_i hn; rw [hn]
    · rfl
  have ht : ∀ (f : Int → Int) (p : String × Int) (X : CSet), proj (touch X self ids p.1 f) n =
      if n = p.1 then opTouch self f (proj X n) else proj X n := by
    intro f p X; rw [proj_touch]; split
    · rename_i hn; rw [hn]
    · rfl
  simp only [applyOps, Bool.false_eq_true, if_false, opsOn]
  exact List.foldl_rel (r := fun X l => proj X n = l)
    (List.foldl_rel (r := fun X l => proj X n = l)
      (List.foldl_rel (r := fun X l => proj X n = l) rfl fun p _ X _ h => h ▸ hi p X)
      fun p _ X _ h => h ▸ ht _ p X)
    fun p _ X _ h => h ▸ ht _ p X

/-- what `opReset` and `opTouch` keep, `applyOps` keeps on every name -/
theorem opsOn_induction {Q : PL → Prop} {self : Nat} {ids : List Nat} (o : Ops) (n : String) {l : PL} (h : Q l)
    (hr : ∀ v l, Q l → Q (opReset (self :: ids) self v l)) (ht : ∀ f l, Q l → Q (opTouch self f l)) :
    Q (opsOn self ids o n l) := by
  have step : ∀ (op : PL → PL), (∀ l, Q l → Q (op l)) → ∀ (c : Prop) [Decidable c] (l : PL), Q l →
      Q (if c then op l else l) := by
    intro op hop c _ l hl; split
    · exact hop l hl
    · exact hl
  exact List.foldlRecOn _ _ (List.foldlRecOn _ _ (List.foldlRecOn _ _ h
    fun l hl p _ => step _ (hr p.2) _ l hl) fun l hl p _ => step _ (ht _) _ l hl) fun l hl p _ => step _ (ht _) _ l hl

end WR.C19
