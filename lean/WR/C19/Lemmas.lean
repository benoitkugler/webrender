/-
  C19 — helper lemmas about the digit loops, `collect`, `concat`, `repeatStr`, the additive system and
  steps 4-5 (pad, negative).
-/
import WR.C19.Model
namespace WR.C19

/-- value of a little-endian digit list in base `L` -/
def evalLE (L : Nat) : List Nat → Nat
  | [] => 0
  | d :: ds => d + L * evalLE L ds

/-- value of a little-endian digit list in bijective base `L` (digit `d` stands for `d+1`) -/
def evalBij (L : Nat) : List Nat → Nat
  | [] => 0
  | d :: ds => (d + 1) + L * evalBij L ds

/-! ### the digit loops

`numLoop L` and `alphaLoop L` have one shape: with fuel left and `v ≠ 0`, emit `dig v` and go on with
`nxt v < v`.  What follows from the shape is proved for any such `loop`. -/

section loop
variable {loop : Nat → Nat → List Nat} {dig nxt : Nat → Nat}
  (h0 : ∀ v, loop 0 v = []) (hs : ∀ f v, loop (f + 1) v = if v = 0 then [] else dig v :: loop f (nxt v))
include h0 hs

theorem loop_zero : ∀ f, loop f 0 = []
  | 0 => h0 0
  | f + 1 => by rw [hs, if_pos rfl]

variable (hn : ∀ v, v ≠ 0 → nxt v < v)
include hn

theorem loop_fuel : ∀ f1 f2 v, v ≤ f1 → v ≤ f2 → loop f1 v = loop f2 v
  | 0, f2, v, h1, _ => by
    obtain rfl : v = 0 := by omega
    rw [loop_zero h0 hs, loop_zero h0 hs]
  | f1, 0, v, _, h2 => by
    obtain rfl : v = 0 := by omega
    rw [loop_zero h0 hs, loop_zero h0 hs]
  | f1 + 1, f2 + 1, v, h1, h2 => by
    rw [hs, hs]
    split
    · rfl
    · rename_i hv
      have := hn v hv
      rw [loop_fuel f1 f2 (nxt v) (by omega) (by omega)]

theorem loop_induction {P : Nat → List Nat → Prop} (zero : P 0 [])
    (step : ∀ v, v ≠ 0 → P (nxt v) (loop (nxt v) (nxt v)) → P v (dig v :: loop (nxt v) (nxt v))) :
    ∀ v, P v (loop v v) := by
  intro v
  induction v using Nat.strongRecOn with
  | _ v ih =>
    cases v with
    | zero => rw [h0]; exact zero
    | succ n =>
      have hlt := hn (n + 1) (Nat.succ_ne_zero n)
      rw [hs, if_neg (Nat.succ_ne_zero n), loop_fuel h0 hs hn n (nxt (n + 1)) (nxt (n + 1)) (by omega) (Nat.le_refl _)]
      exact step _ (Nat.succ_ne_zero n) (ih _ hlt)

end loop

theorem numDigits_induction (L : Nat) (hL : 2 ≤ L) {P : Nat → List Nat → Prop} (zero : P 0 [])
    (step : ∀ v, v ≠ 0 → P (v / L) (numDigits L (v / L)) → P v (v % L :: numDigits L (v / L))) :
    ∀ v, P v (numDigits L v) :=
  loop_induction (loop := numLoop L) (fun _ => rfl) (fun _ _ => rfl)
    (fun _ hv => Nat.div_lt_self (Nat.pos_of_ne_zero hv) hL) zero step

theorem alphaDigits_induction (L : Nat) {P : Nat → List Nat → Prop} (zero : P 0 [])
    (step : ∀ v, v ≠ 0 → P ((v - 1) / L) (alphaDigits L ((v - 1) / L)) →
      P v ((v - 1) % L :: alphaDigits L ((v - 1) / L))) :
    ∀ v, P v (alphaDigits L v) :=
  loop_induction (loop := alphaLoop L) (fun _ => rfl) (fun _ _ => rfl)
    (fun _ hv => Nat.lt_of_le_of_lt (Nat.div_le_self _ _) (Nat.pred_lt hv)) zero step

/-! ### numeric -/

theorem numDigits_zero (L : Nat) : numDigits L 0 = [] := rfl

theorem numDigits_unfold (L : Nat) (hL : 2 ≤ L) (v : Nat) (hv : v ≠ 0) :
    numDigits L v = (v % L) :: numDigits L (v / L) :=
  numDigits_induction L hL (P := fun v l => v ≠ 0 → l = (v % L) :: numDigits L (v / L))
    (fun h => absurd rfl h) (fun _ _ _ _ => rfl) v hv

theorem numDigits_eval (L : Nat) (hL : 2 ≤ L) : ∀ v, evalLE L (numDigits L v) = v :=
  numDigits_induction L hL (P := fun v l => evalLE L l = v) rfl fun v _ ih => by
    simp only [evalLE, ih]; exact Nat.mod_add_div v L

theorem numDigits_lt (L : Nat) (hL : 2 ≤ L) : ∀ v, ∀ d ∈ numDigits L v, d < L :=
  numDigits_induction L hL (P := fun _ l => ∀ d ∈ l, d < L) (fun _ h => absurd h List.not_mem_nil) fun v _ ih d hd => by
    rcases List.mem_cons.mp hd with rfl | h
    · exact Nat.mod_lt _ (by omega)
    · exact ih d h

theorem numDigits_ne_nil (L : Nat) (hL : 2 ≤ L) (v : Nat) (hv : v ≠ 0) : numDigits L v ≠ [] := by
  rw [numDigits_unfold L hL v hv]; simp

theorem numDigits_getLast (L : Nat) (hL : 2 ≤ L) : ∀ (v : Nat) (h : numDigits L v ≠ []),
    (numDigits L v).getLast h ≠ 0 :=
  numDigits_induction L hL (P := fun _ l => ∀ h : l ≠ [], l.getLast h ≠ 0) (fun h => absurd rfl h)
    fun v hv ih _ => by
      by_cases hq : v / L = 0
      · have hlt : v < L := (Nat.div_eq_zero_iff.mp hq).resolve_left (by omega)
        simp only [hq, numDigits_zero, List.getLast_singleton, Nat.mod_eq_of_lt hlt]
        exact hv
      · have hne := numDigits_ne_nil L hL (v / L) hq
        rw [List.getLast_cons hne]
        exact ih hne

theorem numDigits_unique (L : Nat) (hL : 2 ≤ L) : ∀ (ds : List Nat) (v : Nat),
    (∀ d ∈ ds, d < L) → (∀ h : ds ≠ [], ds.getLast h ≠ 0) → evalLE L ds = v → ds = numDigits L v := by
  intro ds
  induction ds with
  | nil => intro v _ _ he; simp [evalLE] at he; subst he; simp [numDigits_zero]
  | cons d ds ih =>
    intro v hlt hlast he
    simp only [evalLE] at he
    have hd : d < L := hlt d (List.mem_cons_self ..)
    have hrest := ih (evalLE L ds) (fun x hx => hlt x (List.mem_cons_of_mem _ hx))
      (fun h => by have := hlast (by simp); rwa [List.getLast_cons h] at this) rfl
    have hv : v ≠ 0 := by
      intro h0
      subst h0
      have hd0 : d = 0 := by omega
      have he0 : evalLE L ds = 0 := by
        have : L * evalLE L ds = 0 := by omega
        rcases Nat.mul_eq_zero.mp this with h | h
        · omega
        · exact h
      rw [he0, numDigits_zero] at hrest
      subst hrest; subst hd0
      exact hlast (by simp) (by simp)
    rw [numDigits_unfold L hL v hv]
    have h1 : v % L = d := by
      rw [← he, Nat.add_mul_mod_self_left]; exact Nat.mod_eq_of_lt hd
    have h2 : v / L = evalLE L ds := by
      rw [← he, Nat.add_mul_div_left _ _ (by omega : 0 < L), Nat.div_eq_of_lt hd]; simp
    rw [h1, h2, ← hrest]

/-! ### alphabetic -/

theorem alphaDigits_zero (L : Nat) : alphaDigits L 0 = [] := rfl

theorem alphaDigits_unfold (L : Nat) (v : Nat) (hv : v ≠ 0) :
    alphaDigits L v = ((v - 1) % L) :: alphaDigits L ((v - 1) / L) :=
  alphaDigits_induction L (P := fun v l => v ≠ 0 → l = ((v - 1) % L) :: alphaDigits L ((v - 1) / L))
    (fun h => absurd rfl h) (fun _ _ _ _ => rfl) v hv

theorem alphaDigits_eval (L : Nat) : ∀ v, evalBij L (alphaDigits L v) = v :=
  alphaDigits_induction L (P := fun v l => evalBij L l = v) rfl fun v hv ih => by
    have := Nat.mod_add_div (v - 1) L
    simp only [evalBij, ih]; omega

theorem alphaDigits_lt (L : Nat) (hL : 1 ≤ L) : ∀ v, ∀ d ∈ alphaDigits L v, d < L :=
  alphaDigits_induction L (P := fun _ l => ∀ d ∈ l, d < L) (fun _ h => absurd h List.not_mem_nil)
    fun v _ ih d hd => by
      rcases List.mem_cons.mp hd with rfl | h
      · exact Nat.mod_lt _ (by omega)
      · exact ih d h

theorem alphaDigits_of_eval (L : Nat) (hL : 1 ≤ L) : ∀ ds : List Nat, (∀ d ∈ ds, d < L) →
    alphaDigits L (evalBij L ds) = ds := by
  intro ds
  induction ds with
  | nil => intro _; simp [evalBij, alphaDigits_zero]
  | cons d ds ih =>
    intro hlt
    have hd : d < L := hlt d (List.mem_cons_self ..)
    simp only [evalBij]
    rw [alphaDigits_unfold L _ (by omega)]
    have e : d + 1 + L * evalBij L ds - 1 = d + L * evalBij L ds := by omega
    rw [e, Nat.add_mul_mod_self_left, Nat.mod_eq_of_lt hd,
        Nat.add_mul_div_left _ _ (by omega : 0 < L), Nat.div_eq_of_lt hd]
    simp only [Nat.zero_add]
    rw [ih (fun x hx => hlt x (List.mem_cons_of_mem _ hx))]

/-! ### strings -/

theorem concat_nil : concat [] = "" := rfl

theorem concat_cons (s : String) (l : List String) : concat (s :: l) = s ++ concat l := rfl

theorem concat_append (a b : List String) : concat (a ++ b) = concat a ++ concat b := by
  induction a with
  | nil => simp [concat_nil]
  | cons s l ih => simp [concat_cons, ih, String.append_assoc]

/-- the symbol at an index, "" outside the list (only used where the index is in range) -/
def symOf (symbols : List NS) (i : Nat) : String := symbol (symbols.getD i NS.zero)

theorem collect_eq (symbols : List NS) : ∀ idx : List Nat, (∀ i ∈ idx, i < symbols.length) →
    collect symbols idx = some (idx.map (symOf symbols)) := by
  intro idx
  induction idx with
  | nil => intro _; simp [collect]
  | cons i rest ih =>
    intro h
    have hi : i < symbols.length := h i (List.mem_cons_self ..)
    have hr := ih (fun x hx => h x (List.mem_cons_of_mem _ hx))
    simp only [collect] at hr ⊢
    simp [List.mapM_cons, hr, symOf, List.getElem?_eq_getElem hi, List.getD_eq_getElem?_getD]

theorem symAt_nat (symbols : List NS) (i : Nat) (hi : i < symbols.length) :
    symAt symbols (i : Int) = some (symOf symbols i) := by
  simp [symAt, symOf, List.getElem?_eq_getElem hi, List.getD_eq_getElem?_getD]

/-- Go's truncating `%` followed by `if index < 0 { index += L }` is the mathematical modulus -/
theorem tmod_fixup (a L : Int) (hL : 0 < L) : (if a.tmod L < 0 then a.tmod L + L else a.tmod L) = a % L := by
  have h1 := Int.emod_nonneg a (Int.ne_of_gt hL)
  have h2 := Int.emod_lt_of_pos a hL
  rw [Int.tmod_eq_emod]
  split <;> split <;> omega

/-! ### additive, pad, negative -/

/-- Σ weightᵢ · countᵢ over the tuples that received a count -/
def weightedSum : List (Int × NS) → List Nat → Int
  | (w, _) :: ws, c :: cs => w * c + weightedSum ws cs
  | _, _ => 0

/-- the symbols repeated by their counts -/
def renderCounts : List (Int × NS) → List Nat → List String
  | (_, s) :: ws, c :: cs => repeatStr (symbol s) c :: renderCounts ws cs
  | _, _ => []

/-- `cs` are the greedy counts for `v`: a zero weight gets the count 0, any other the (truncating)
    quotient of what is left by the weight, in the order of the tuples; nothing is left at the end -/
def Greedy : List (Int × NS) → Int → List Nat → Prop
  | _, v, [] => v = 0
  | (w, _) :: ws, v, c :: cs =>
    (w = 0 ∧ c = 0 ∧ Greedy ws v cs) ∨ (w ≠ 0 ∧ (c : Int) = v.tdiv w ∧ Greedy ws (v - w * c) cs)
  | [], _, _ :: _ => False

theorem repeatStr_zero (s : String) : repeatStr s 0 = "" := rfl

theorem additiveLoop_ok : ∀ (syms : List (Int × NS)) (v : Int) (acc : List String) (s : String),
    additiveLoop syms v acc = .ok s →
    ∃ cs : List Nat, cs ≠ [] ∧ cs.length ≤ syms.length ∧ s = concat (acc.reverse ++ renderCounts syms cs)
      ∧ weightedSum syms cs = v ∧ Greedy syms v cs := by
  intro syms
  induction syms with
  | nil => intro v acc s h; simp [additiveLoop] at h
  | cons ws rest ih =>
    intro v acc s h
    obtain ⟨w, sym⟩ := ws
    simp only [additiveLoop] at h
    by_cases hw : w = 0
    · simp only [hw, if_true] at h
      obtain ⟨cs, hne, hlen, hs, hsum, hg⟩ := ih _ _ _ h
      refine ⟨0 :: cs, by simp, by simp; omega, ?_, ?_, ?_⟩
      · rw [hs]; simp [renderCounts, repeatStr_zero, concat_append, concat_cons]
      · simp only [weightedSum, hw, hsum]; omega
      · simp only [Greedy]; exact .inl ⟨hw, trivial, hg⟩
    · simp only [hw, if_false] at h
      by_cases hneg : v.tdiv w < 0
      · simp [hneg] at h
      · simp only [hneg, if_false] at h
        have hc : ((v.tdiv w).toNat : Int) = v.tdiv w := by omega
        by_cases hz : v - w * v.tdiv w = 0
        · simp only [hz, if_true, Res.ok.injEq] at h
          refine ⟨[(v.tdiv w).toNat], by simp, by simp, ?_, ?_, ?_⟩
          · rw [← h]; simp [renderCounts, List.reverse_cons]
          · simp only [weightedSum, hc]; omega
          · simp only [Greedy, hc]; exact .inr ⟨hw, trivial, hz⟩
        · simp only [hz, if_false] at h
          obtain ⟨cs, hne, hlen, hs, hsum, hg⟩ := ih _ _ _ h
          refine ⟨(v.tdiv w).toNat :: cs, by simp, by simp; omega, ?_, ?_, ?_⟩
          · rw [hs]; simp [renderCounts, List.reverse_cons, List.append_assoc]
          · simp only [weightedSum, hc, hsum]; omega
          · simp only [Greedy, hc]; exact .inr ⟨hw, trivial, hg⟩

theorem repeatStr_length (s : String) (n : Nat) : (repeatStr s n).length = n * s.length := by
  induction n with
  | zero => simp [repeatStr, concat]
  | succ k ih =>
    simp only [repeatStr, List.replicate_succ, concat_cons, String.length_append] at ih ⊢
    rw [ih, Nat.succ_mul]; omega

theorem pad_arith (P : Int) (m : Nat) : (P - m).toNat + m = max P.toNat m := by omega

theorem padded_length (sym initial : String) (h1 : sym.length = 1) (diff : Int) :
    (if diff > 0 then repeatStr sym diff.toNat ++ initial else initial).length = diff.toNat + initial.length := by
  split
  · rw [String.length_append, repeatStr_length, h1, Nat.mul_one]
  · omega

theorem finish_length (d : Desc) (neg : Bool) (np ns initial : String) (h1 : (symbol d.padSym).length = 1) :
    (finish d neg np ns initial).length =
      max d.padLen.toNat (initial.length + (if neg then np.length + ns.length else 0)) := by
  cases neg
  · simp only [finish, Bool.false_eq_true, if_false, padded_length _ _ h1, Nat.add_zero]
    exact pad_arith _ _
  · simp only [finish, if_true, String.length_append, padded_length _ _ h1]
    rw [← pad_arith, Int.natCast_add, Int.natCast_add, Int.sub_sub]
    omega

theorem finish_negative (d : Desc) (np ns initial : String) :
    ∃ padding, finish d true np ns initial = np ++ (padding ++ initial) ++ ns := by
  simp only [finish, if_true]
  split
  · exact ⟨_, rfl⟩
  · exact ⟨"", by simp⟩

def descending : List Int → Bool
  | a :: b :: l => decide (a > b) && descending (b :: l)
  | _ => true

/-- `>` is transitive, so comparing neighbours is enough -/
theorem descending_iff : ∀ l : List Int, descending l = true ↔ l.Pairwise (· > ·)
  | [] => by simp [descending]
  | [a] => by simp [descending]
  | a :: b :: l => by
    rw [descending, Bool.and_eq_true, decide_eq_true_eq, descending_iff (b :: l), List.pairwise_cons (a := a),
      List.pairwise_cons]
    constructor
    · rintro ⟨hab, hb, hl⟩
      refine ⟨fun x hx => ?_, hb, hl⟩
      rcases List.mem_cons.mp hx with rfl | hx
      · exact hab
      · exact Int.lt_trans (hb x hx) hab
    · rintro ⟨ha, h⟩
      exact ⟨ha b (List.mem_cons_self ..), h⟩

end WR.C19
