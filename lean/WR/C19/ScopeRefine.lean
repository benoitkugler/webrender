/-
  C19 — scope_spec, model side: the stack machine of Scope.lean (elementToBox / UpdateCounters / push and
  pop of the sibling scopes) computes the threaded counters set of ScopeThread.lean, for every element
  tree.

  The stacks of the model are the values of the counters of each name; the model's "names created
  among the current siblings" are the names whose innermost counter was created by the element or a
  preceding sibling (`Match`).
-/
import WR.C19.ScopeThread
namespace WR.C19

/-! ### the element-local step: `UpdateCounters` refines `applyOps` -/

/-- the model state (stacks, sibling-scope names) represents the counters set `E` as seen by an
    element whose own id and preceding siblings' ids are `ids` -/
structure Match (E : CSet) (ids : List Nat) (vals : Values) (sib : List String) : Prop where
  vals : ∀ n, vals n = (proj E n).map (·.1)
  sib : ∀ n, sib.contains n = (match (proj E n).getLast? with
    | some vc => ids.contains vc.2
    | none => false)

theorem Match.update {E E' : CSet} {ids : List Nat} {vals : Values} {sib sib' : List String} {name : String}
    {l' : PL} {x : List Int} (h : Match E ids vals sib)
    (hp : ∀ n, proj E' n = if n = name then l' else proj E n) (hx : x = l'.map (·.1))
    (hs : ∀ n, n ≠ name → sib'.contains n = sib.contains n)
    (hl : sib'.contains name = match l'.getLast? with
      | some vc => ids.contains vc.2
      | none => false) :
    Match E' ids (vals.put name x) sib' := by
  constructor <;> intro n <;> rw [hp n] <;> by_cases hn : n = name
  · subst hn; simp [Values.put, hx]
  · simp only [Values.put, hn, if_false]; exact h.vals n
  · subst hn; simp only [if_true]; exact hl
  · simp only [hn, if_false]; rw [hs n hn]; exact h.sib n

theorem match_single (name : String) (c : Nat) (v : Int) {ids : List Nat} (hc : c ∈ ids) :
    Match [⟨name, c, v⟩] ids (Values.put (fun _ => []) name [v]) [name] := by
  constructor <;> intro n <;> rw [proj_single] <;> by_cases hn : n = name
  · subst hn; simp [Values.put]
  · have hn' : ¬ name = n := fun e => hn e.symm
    simp [Values.put, hn, hn']
  · subst hn; simp [hc]
  · have hn' : ¬ name = n := fun e => hn e.symm
    simp [hn, hn']

theorem contains_cons_ne {name n : String} (sib : List String) (hn : n ≠ name) :
    (name :: sib).contains n = sib.contains n := by
  simp [hn]

theorem reset_refines (E : CSet) (self : Nat) (sibs : List Nat) (vals : Values) (sib : List String)
    (name : String) (v : Int) (h : Match E (self :: sibs) vals sib) :
    ∃ vals' sib', resetOne vals sib name v = some (vals', sib') ∧
      Match (instantiate E self sibs name v) (self :: sibs) vals' sib' ∧ (sib.Nodup → sib'.Nodup) := by
  have hs := h.sib name
  have hv := h.vals name
  have hp := proj_instantiate E self sibs name v
  rcases snoc_cases (proj E name) with he | ⟨l', a, he⟩
  · -- no counter of that name yet
    rw [he] at hs hv hp
    have hc : name ∉ sib := by simpa using hs
    exact ⟨vals.put name [v], name :: sib, by simp [resetOne, hc, hv],
      h.update hp rfl (fun n => contains_cons_ne sib) (by simp [opReset_nil]), fun hn => List.nodup_cons.mpr ⟨hc, hn⟩⟩
  · rw [he] at hs hv hp
    simp only [List.getLast?_concat] at hs
    by_cases hq : a.2 ∈ self :: sibs
    · -- replaced: the innermost instance was created by the element or a preceding sibling
      have hc : name ∈ sib := by simpa [hq] using hs
      simp only [opReset_pos hq] at hp
      exact ⟨vals.put name (l'.map (·.1) ++ [v]), sib, by simp [resetOne, hc, hv],
        h.update hp (by simp) (fun _ _ => rfl) (by simpa using hc), id⟩
    · -- nested: a new instance inside the existing ones
      have hc : name ∉ sib := by simpa [hq] using hs
      simp only [opReset_neg hq] at hp
      exact ⟨vals.put name (vals name ++ [v]), name :: sib, by simp [resetOne, hc],
        h.update hp (by simp [hv]) (fun n => contains_cons_ne sib) (by simp), fun hn => List.nodup_cons.mpr ⟨hc, hn⟩⟩

theorem touch_refines (E : CSet) (self : Nat) (sibs : List Nat) (vals : Values) (sib : List String)
    (name : String) (f : Int → Int) (h : Match E (self :: sibs) vals sib) :
    Match (touch E self sibs name f) (self :: sibs) (touchOne vals sib name f).1 (touchOne vals sib name f).2
      ∧ (sib.Nodup → (touchOne vals sib name f).2.Nodup) := by
  have hs := h.sib name
  have hv := h.vals name
  have hp := proj_touch E self sibs name f
  rcases snoc_cases (proj E name) with he | ⟨l', a, he⟩
  · -- no counter of that name: one is created at this level
    rw [he] at hs hv hp
    have hc : name ∉ sib := by simpa using hs
    have e : touchOne vals sib name f = (vals.put name [f 0], name :: sib) := by simp [touchOne, hv, hc]
    rw [e]
    exact ⟨h.update hp rfl (fun n => contains_cons_ne sib) (by simp [opTouch_nil]),
      fun hn => List.nodup_cons.mpr ⟨hc, hn⟩⟩
  · rw [he] at hs hv hp
    simp only [List.getLast?_concat] at hs
    simp only [opTouch_snoc] at hp
    have e : touchOne vals sib name f = (vals.put name (l'.map (·.1) ++ [f a.1]), sib) := by simp [touchOne, hv]
    rw [e]
    exact ⟨h.update hp (by simp) (fun _ _ => rfl) (by simpa using hs), id⟩

theorem setAll_eq_foldl : ∀ (ps : List (String × Int)) (st : Values × List String),
    setAll ps st = ps.foldl (fun st p => touchOne st.1 st.2 p.1 (fun _ => p.2)) st
  | [], _ => rfl
  | (_, _) :: rest, (_, _) => setAll_eq_foldl rest _

theorem incrAll_eq_foldl : ∀ (ps : List (String × Int)) (st : Values × List String),
    incrAll ps st = ps.foldl (fun st p => touchOne st.1 st.2 p.1 (· + p.2)) st
  | [], _ => rfl
  | (_, _) :: rest, (_, _) => incrAll_eq_foldl rest _

theorem resetAll_refines (self : Nat) (sibs : List Nat) : ∀ (rs : List (String × Int)) (E : CSet) (vals : Values)
    (sib : List String), Match E (self :: sibs) vals sib →
    ∃ vals' sib', resetAll rs vals sib = some (vals', sib') ∧
      Match (rs.foldl (fun s p => instantiate s self sibs p.1 p.2) E) (self :: sibs) vals' sib' ∧
      (sib.Nodup → sib'.Nodup)
  | [], _, vals, sib, h => ⟨vals, sib, rfl, h, id⟩
  | (n, v) :: rest, E, vals, sib, h => by
    obtain ⟨vals1, sib1, h1, hm1, hn1⟩ := reset_refines E self sibs vals sib n v h
    obtain ⟨vals2, sib2, h2, hm2, hn2⟩ := resetAll_refines self sibs rest _ vals1 sib1 hm1
    exact ⟨vals2, sib2, by simp only [resetAll, h1]; exact h2, hm2, hn2 ∘ hn1⟩

/-- `UpdateCounters` on the stacks is `applyOps` (reset, increment, set) on the counters set; the
    sibling scope keeps listing each name once -/
theorem update_refines (E : CSet) (self : Nat) (sibs : List Nat) (o : Ops) (vals : Values) (sib : List String)
    (up : List (List String)) (h : Match E (self :: sibs) vals sib) :
    ∃ vals' sib', updateCounters ⟨vals, sib :: up⟩ o = some ⟨vals', sib' :: up⟩ ∧
      Match (applyOps false E self sibs o) (self :: sibs) vals' sib' ∧ (sib.Nodup → sib'.Nodup) := by
  obtain ⟨vals1, sib1, h1, hm1⟩ := resetAll_refines self sibs o.reset E vals sib h
  have touches : ∀ (g : String × Int → Int → Int) (ps : List (String × Int)) (E : CSet) (st : Values × List String),
      Match E (self :: sibs) st.1 st.2 ∧ (sib.Nodup → st.2.Nodup) →
      Match (ps.foldl (fun s p => touch s self sibs p.1 (g p)) E) (self :: sibs)
        (ps.foldl (fun st p => touchOne st.1 st.2 p.1 (g p)) st).1 (ps.foldl (fun st p => touchOne st.1 st.2 p.1 (g p)) st).2
      ∧ (sib.Nodup → (ps.foldl (fun st p => touchOne st.1 st.2 p.1 (g p)) st).2.Nodup) :=
    fun g ps E st h => List.foldl_rel (r := fun E (st : Values × List String) => Match E (self :: sibs) st.1 st.2 ∧ (sib.Nodup → st.2.Nodup)) h
      fun p _ E (st : Values × List String) hm => ⟨(touch_refines E self sibs st.1 st.2 p.1 (g p) hm.1).1,
        (touch_refines E self sibs st.1 st.2 p.1 (g p) hm.1).2 ∘ hm.2⟩
  have h3 := touches (fun p => fun _ => p.2) o.set _ _ (touches (fun p => (· + p.2)) o.increments _ (vals1, sib1) hm1)
  exact ⟨_, _, by simp only [updateCounters, h1, setAll_eq_foldl, incrAll_eq_foldl]; rfl, by simpa [applyOps] using h3⟩

/-! ### a fresh id joins the level -/

theorem match_fresh {E : CSet} {ids : List Nat} {self : Nat} {vals : Values} {sib : List String}
    (h : Match E ids vals sib) (hf : ∀ n, ∀ c ∈ crs (proj E n), c < self) : Match E (self :: ids) vals sib := by
  refine ⟨h.vals, ?_⟩
  intro n
  rw [h.sib n]
  cases hl : (proj E n).getLast? with
  | none => rfl
  | some vc =>
    simp only
    exact (contains_fresh (hf n vc.2 (List.mem_map_of_mem (List.mem_of_getLast? hl)))).symm

/-! ### closing a scope -/

/-- one step of the loop of `popScope` -/
def popStep (acc : Option Values) (n : String) : Option Values :=
  match acc with
  | none => none
  | some vals => if (vals n).isEmpty then none else some (vals.put n (vals n).dropLast)

theorem popScope_eq (vals : Values) (sc : List String) (up : List (List String)) :
    popScope ⟨vals, sc :: up⟩ =
      (match sc.foldl popStep (some vals) with
        | none => none
        | some v => some ⟨v, up⟩) := rfl

theorem popFold : ∀ (sc : List String) (vals : Values), sc.Nodup → (∀ n ∈ sc, vals n ≠ []) →
    ∃ vals', sc.foldl popStep (some vals) = some vals' ∧
      ∀ n, vals' n = if n ∈ sc then (vals n).dropLast else vals n := by
  intro sc
  induction sc with
  | nil => intro vals _ _; exact ⟨vals, rfl, fun n => by simp⟩
  | cons a rest ih =>
    intro vals hn hne
    have ha : (vals a).isEmpty = false := by
      have := hne a (List.mem_cons_self ..)
      cases hv : vals a with
      | nil => exact absurd hv this
      | cons x t => rfl
    obtain ⟨hna, hnr⟩ := List.nodup_cons.mp hn
    have hne' : ∀ n ∈ rest, (vals.put a (vals a).dropLast) n ≠ [] := by
      intro n hm
      have : n ≠ a := fun e => hna (e ▸ hm)
      simp only [Values.put, this, if_false]
      exact hne n (List.mem_cons_of_mem _ hm)
    obtain ⟨vals', h1, h2⟩ := ih (vals.put a (vals a).dropLast) hnr hne'
    refine ⟨vals', by simp only [List.foldl_cons, popStep, ha, Bool.false_eq_true, if_false]; exact h1, ?_⟩
    intro n
    rw [h2 n]
    by_cases hm : n ∈ rest
    · have : n ≠ a := fun e => hna (e ▸ hm)
      simp [hm, Values.put, this]
    · by_cases he : n = a
      · subst he; simp [hm, Values.put]
      · simp [hm, he, Values.put]

theorem popScope_spec {vals : Values} {sc : List String} {up : List (List String)} (hn : sc.Nodup)
    (hne : ∀ n ∈ sc, vals n ≠ []) :
    ∃ vals', popScope ⟨vals, sc :: up⟩ = some ⟨vals', up⟩ ∧
      ∀ n, vals' n = if n ∈ sc then (vals n).dropLast else vals n := by
  obtain ⟨vals', h1, h2⟩ := popFold sc vals hn hne
  exact ⟨vals', by rw [popScope_eq, h1], h2⟩

theorem getLast?_crs (l : PL) : (crs l).getLast? = l.getLast?.map (·.2) := by
  simp [crs, List.getLast?_map]

/-- the counters created at the level sit innermost: removing them drops at most the last one -/
theorem filter_level {ids : List Nat} {next : Nat} {l' : PL} {a : Int × Nat} (h : Good ids next (l' ++ [a])) :
    (l' ++ [a]).filter (fun vc => !ids.contains vc.2) = if a.2 ∈ ids then l' else l' ++ [a] := by
  have hl' : l'.filter (fun vc => !ids.contains vc.2) = l' :=
    List.filter_eq_self.mpr fun vc hm => by
      have : vc.2 ∉ ids := h.top vc.2 (by simpa [crs] using ⟨vc.1, hm⟩)
      simpa using this
  rw [List.filter_append, hl']
  by_cases hq : a.2 ∈ ids <;> simp [hq]

theorem pop_match {r : Th} {s : CSet} {outerIds : List Nat} {vals : Values} {sc sib : List String}
    {up : List (List String)}
    (hm : Match r.set r.ids vals sc) (hn : sc.Nodup) (hi : TInv r.set r.ids r.next)
    (hcr : ∀ n, crs (proj (closeScope r) n) = crs (proj s n))
    (hs : ∀ n, sib.contains n = (match (proj s n).getLast? with
      | some vc => outerIds.contains vc.2
      | none => false)) :
    ∃ vals', popScope ⟨vals, sc :: up⟩ = some ⟨vals', up⟩ ∧ Match (closeScope r) outerIds vals' sib := by
  have hne : ∀ n ∈ sc, vals n ≠ [] := by
    intro n hmem h0
    have h1 := hm.sib n
    have he : proj r.set n = [] := List.map_eq_nil_iff.mp (by rw [← hm.vals n]; exact h0)
    rw [he] at h1
    simp [hmem] at h1
  obtain ⟨vals', hp, hv⟩ := popScope_spec (up := up) hn hne
  refine ⟨vals', hp, ?_, ?_⟩
  · intro n
    have h1 := hm.sib n
    have hg := hi.good n
    rw [closeScope, proj_filter_creator (fun c => !r.ids.contains c), hv n, hm.vals n]
    rcases snoc_cases (proj r.set n) with he | ⟨l', a, he⟩
    · rw [he] at h1 ⊢
      have : n ∉ sc := by simpa using h1
      simp [this]
    · rw [he] at h1 hg ⊢
      rw [filter_level hg]
      by_cases hq : a.2 ∈ r.ids
      · have : n ∈ sc := by simpa [hq] using h1
        simp [hq, this]
      · have : n ∉ sc := by simpa [hq] using h1
        simp [hq, this]
  · intro n
    rw [hs n]
    have e1 : (proj (closeScope r) n).getLast?.map (·.2) = (proj s n).getLast?.map (·.2) := by
      rw [← getLast?_crs, ← getLast?_crs, hcr n]
    cases h1 : (proj (closeScope r) n).getLast? <;> cases h2 : (proj s n).getLast? <;>
      simp [h1, h2] at e1 ⊢
    rw [e1]
/-! ### the stack machine follows the threaded walk -/

/-- the model state (stacks, current sibling scope) represents the threaded state -/
structure Rel (t : Th) (vals : Values) (sib : List String) : Prop where
  m : Match t.set t.ids vals sib
  nd : sib.Nodup
  inv : TInv t.set t.ids t.next

theorem values_ext {s : CSet} {vals : Values} (h : ∀ n, vals n = (proj s n).map (·.1)) : vals = s.values := by
  funext n; rw [h n, values_eq_proj]

theorem ops_refine (t : Th) (o : Ops) (vals : Values) (sib : List String) (up : List (List String))
    (h : Rel t vals sib) :
    ∃ vals' sib', updateCounters ⟨vals, sib :: up⟩ o = some ⟨vals', sib' :: up⟩ ∧
      Rel { set := applyOps false t.set t.next t.ids o, ids := t.next :: t.ids, next := t.next + 1 } vals' sib' ∧
      vals' = (applyOps false t.set t.next t.ids o).values := by
  have hm := match_fresh h.m (fun n c hc => (h.inv.good n).lt c hc)
  obtain ⟨vals', sib', hu, hm', hn'⟩ := update_refines t.set t.next t.ids o vals sib up hm
  exact ⟨vals', sib', hu, ⟨hm', hn' h.nd, (tinv_applyOps o h.inv).1⟩, values_ext hm'.vals⟩

theorem pseudo_refines (k : ObsKind) (p : Option Ops) (t : Th) (vals : Values) (sib : List String)
    (up : List (List String)) (h : Rel t vals sib) :
    ∃ vals' sib', pseudo k p ⟨vals, sib :: up⟩ = some (⟨vals', sib' :: up⟩, (thPseudo k p t).2) ∧
      Rel (thPseudo k p t).1 vals' sib' := by
  cases p with
  | none => exact ⟨vals, sib, rfl, h⟩
  | some o =>
    obtain ⟨vals', sib', hu, hr, hv⟩ := ops_refine t o vals sib up h
    refine ⟨vals', sib', ?_, hr⟩
    simp only [pseudo, hu, thPseudo, hv]

mutual
  /-- the stack machine computes the threaded counters set, for every element tree -/
  theorem walk_refines : ∀ (e : Elem) (t : Th) (vals : Values) (sib : List String) (up : List (List String)),
      Rel t vals sib →
      ∃ vals' sib', walk e ⟨vals, sib :: up⟩ = some (⟨vals', sib' :: up⟩, (thWalk e t).2) ∧
        Rel (thWalk e t).1 vals' sib'
    | .node dn ops b a ch, t, vals, sib, up, h => by
      by_cases hd : dn = true
      · refine ⟨vals, sib, ?_, ?_⟩
        · simp only [walk, thWalk, hd, if_true]
        · simp only [thWalk, hd, if_true]; exact h
      · obtain ⟨v1, s1, hu, hr1, hv1⟩ := ops_refine t ops vals sib up h
        subst hv1
        have hin : Rel { set := applyOps false t.set t.next t.ids ops, ids := [], next := t.next + 1 }
            (applyOps false t.set t.next t.ids ops).values [] := by
          refine ⟨⟨hr1.m.vals, ?_⟩, List.nodup_nil, ?_⟩
          · intro n; cases (proj (applyOps false t.set t.next t.ids ops) n).getLast? <;> rfl
          · exact tinv_inner hr1.inv
        obtain ⟨v2, s2, hp1, hr2⟩ := pseudo_refines .before b _ _ [] (s1 :: up) hin
        obtain ⟨v3, s3, hw, hr3⟩ := walkList_refines ch _ v2 s2 (s1 :: up) hr2
        obtain ⟨v4, s4, hp2, hr4⟩ := pseudo_refines .after a _ v3 s3 (s1 :: up) hr3
        have st1 := thPseudo_step .before b
          { set := applyOps false t.set t.next t.ids ops, ids := [], next := t.next + 1 } hin.inv
        have st2 := thWalkList_step ch _ st1.inv
        have st3 := thPseudo_step .after a _ st2.inv
        obtain ⟨hc, hcr⟩ := close_step hr1.inv ((st1.trans st2).trans st3)
        obtain ⟨v5, hpop, hm5⟩ := pop_match (up := s1 :: up) hr4.m hr4.nd hr4.inv hcr hr1.m.sib
        refine ⟨v5, s1, ?_, ?_⟩
        · simp only [walk, thWalk, hd, Bool.false_eq_true, if_false, hu, hp1, hw, hp2, hpop]
        · simp only [thWalk, hd, Bool.false_eq_true, if_false]
          exact ⟨hm5, hr1.nd, hc⟩
  theorem walkList_refines : ∀ (es : List Elem) (t : Th) (vals : Values) (sib : List String)
      (up : List (List String)), Rel t vals sib →
      ∃ vals' sib', walkList es ⟨vals, sib :: up⟩ = some (⟨vals', sib' :: up⟩, (thWalkList es t).2) ∧
        Rel (thWalkList es t).1 vals' sib'
    | [], t, vals, sib, up, h => ⟨vals, sib, by simp only [walkList, thWalkList], by simp only [thWalkList]; exact h⟩
    | e :: es, t, vals, sib, up, h => by
      obtain ⟨v1, s1, h1, r1⟩ := walk_refines e t vals sib up h
      obtain ⟨v2, s2, h2, r2⟩ := walkList_refines es _ v1 s1 up r1
      refine ⟨v2, s2, ?_, ?_⟩
      · simp only [walkList, thWalkList, h1, h2]
      · simp only [thWalkList]; exact r2
end

end WR.C19
