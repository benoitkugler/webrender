/-
  C19 — scope_spec, the middle term: the THREADED formulation of the counters set and its invariants.
  The stack machine is tied to it in ScopeRefine.lean, the specification's walk in ScopeSpecProof.lean.

  `thWalk` visits the elements in document order with ONE counters set: every box-generating element
  (and ::before / ::after) applies `applyOps` of the standard (instantiate / increment / set, with
  creators), and when an element ends, the counters created by its children (and its ::before /
  ::after) are removed — "the scope of a counter ends with the parent of the element that created it".

  The invariants are facts about the list of one name (`Good`), kept by `opReset` and `opTouch`.
-/
import WR.C19.ScopeProj
namespace WR.C19

/-! ### invariants of one name's list -/

/-- the creators, outermost first -/
def crs (l : PL) : List Nat := l.map (·.2)

/-- level counters (creator among `ids`) only in the innermost position; creators distinct and `< next` -/
structure Good (ids : List Nat) (next : Nat) (l : PL) : Prop where
  top : ∀ c ∈ (crs l).dropLast, c ∉ ids
  uniq : (crs l).Nodup
  lt : ∀ c ∈ crs l, c < next

/-- the creators of the counters NOT created at this level, outermost first -/
def outerL (ids : List Nat) (l : PL) : List Nat := (crs l).filter (fun c => !ids.contains c)

theorem crs_append (a b : PL) : crs (a ++ b) = crs a ++ crs b := by simp [crs]

theorem good_nil (ids : List Nat) (next : Nat) : Good ids next [] :=
  ⟨by simp [crs], by simp [crs], by simp [crs]⟩

theorem good_mono {ids : List Nat} {next next' : Nat} {l : PL} (h : Good ids next l) (hn : next ≤ next') :
    Good ids next' l := ⟨h.top, h.uniq, fun c hc => Nat.lt_of_lt_of_le (h.lt c hc) hn⟩

theorem good_of_crs {ids : List Nat} {next : Nat} {l l' : PL} (h : Good ids next l) (e : crs l' = crs l) :
    Good ids next l' := ⟨by rw [e]; exact h.top, by rw [e]; exact h.uniq, by rw [e]; exact h.lt⟩

/-- ids are handed out in increasing order: one met before is not the fresh one -/
theorem contains_fresh {ids : List Nat} {self c : Nat} (h : c < self) : (self :: ids).contains c = ids.contains c := by
  have h3 : (c == self) = false := by simp; omega
  rw [List.contains_cons, h3, Bool.false_or]

theorem good_fresh {ids : List Nat} {self : Nat} {l : PL} (h : Good ids self l) :
    Good (self :: ids) (self + 1) l := by
  refine ⟨?_, h.uniq, fun c hc => Nat.lt_succ_of_lt (h.lt c hc)⟩
  intro c hc
  have h2 : c < self := h.lt c (List.dropLast_subset _ hc)
  simp only [List.mem_cons, not_or]
  exact ⟨by omega, h.top c hc⟩

theorem outerL_fresh {ids : List Nat} {self : Nat} {l : PL} (h : Good ids self l) :
    outerL (self :: ids) l = outerL ids l := by
  exact List.filter_congr fun c hc => by rw [contains_fresh (h.lt c hc)]

theorem good_snoc {ids : List Nat} {next : Nat} {l m : PL} {a : Int × Nat} (h : Good ids next l)
    (hsub : (crs m).Sublist (crs l)) (hm : ∀ c ∈ crs m, c ∉ ids) (ha : a.2 ∈ ids) (hlt : a.2 < next) :
    Good ids next (m ++ [a]) := by
  refine ⟨?_, ?_, ?_⟩
  · simpa [crs] using hm
  · rw [crs_append, List.nodup_append]
    refine ⟨hsub.nodup h.uniq, by simp [crs], ?_⟩
    intro x hx y hy e
    simp only [crs, List.map_cons, List.map_nil, List.mem_singleton] at hy
    exact hm x hx (e ▸ hy ▸ ha)
  · intro c hc
    rw [crs_append] at hc
    rcases List.mem_append.mp hc with h1 | h1
    · exact h.lt c (hsub.subset h1)
    · simp only [crs, List.map_cons, List.map_nil, List.mem_singleton] at h1
      exact h1 ▸ hlt

theorem opReset_good {ids : List Nat} {next self : Nat} {v : Int} {l : PL} (h : Good ids next l)
    (hs : self ∈ ids) (hlt : self < next) : Good ids next (opReset ids self v l) := by
  rcases snoc_cases l with rfl | ⟨l', a, rfl⟩
  · exact good_snoc (m := []) h (List.Sublist.refl _) (by simp [crs]) hs hlt
  · have htop : ∀ c ∈ crs l', c ∉ ids := fun c hc => h.top c (by simpa [crs] using hc)
    by_cases hq : a.2 ∈ ids
    · rw [opReset_pos hq]
      exact good_snoc h (by rw [crs_append]; exact List.sublist_append_left _ _) htop hs hlt
    · rw [opReset_neg hq]
      refine good_snoc h (List.Sublist.refl _) (fun c hc => ?_) hs hlt
      rw [crs_append] at hc
      rcases List.mem_append.mp hc with h1 | h1
      · exact htop c h1
      · simp only [crs, List.map_cons, List.map_nil, List.mem_singleton] at h1
        exact h1 ▸ hq

theorem opReset_outer {ids : List Nat} {self : Nat} {v : Int} {l : PL}
    (hs : self ∈ ids) : outerL ids (opReset ids self v l) = outerL ids l := by
  rcases snoc_cases l with rfl | ⟨l', a, rfl⟩
  · simp [opReset_nil, outerL, crs, hs]
  · by_cases hq : a.2 ∈ ids
    · rw [opReset_pos hq]; simp [outerL, crs, hs, hq, List.filter_append]
    · rw [opReset_neg hq]; simp [outerL, crs, hs, hq, List.filter_append]

theorem opTouch_crs {self : Nat} {f : Int → Int} {l : PL} (hne : l ≠ []) : crs (opTouch self f l) = crs l := by
  rcases snoc_cases l with rfl | ⟨l', a, rfl⟩
  · exact absurd rfl hne
  · simp [opTouch_snoc, crs]

theorem opTouch_good {ids : List Nat} {next self : Nat} {f : Int → Int} {l : PL} (h : Good ids next l)
    (hs : self ∈ ids) (hlt : self < next) : Good ids next (opTouch self f l) := by
  by_cases hne : l = []
  · subst hne
    exact good_snoc (m := []) h (List.Sublist.refl _) (by simp [crs]) hs hlt
  · exact good_of_crs h (opTouch_crs hne)

theorem opTouch_outer {ids : List Nat} {self : Nat} {f : Int → Int} {l : PL}
    (hs : self ∈ ids) : outerL ids (opTouch self f l) = outerL ids l := by
  by_cases hne : l = []
  · subst hne; simp [opTouch_nil, outerL, crs, hs]
  · unfold outerL; rw [opTouch_crs hne]

/-! ### invariants of a counters set -/

/-- every name's list is `Good`; the ids of the level are `< next` -/
structure TInv (s : CSet) (ids : List Nat) (next : Nat) : Prop where
  good : ∀ n, Good ids next (proj s n)
  idlt : ∀ i ∈ ids, i < next

def outer (s : CSet) (ids : List Nat) (n : String) : List Nat := outerL ids (proj s n)

theorem tinv_inner {s : CSet} {ids : List Nat} {next : Nat} (h : TInv s ids next) : TInv s [] next :=
  ⟨fun n => ⟨fun _ _ => List.not_mem_nil, (h.good n).uniq, (h.good n).lt⟩, fun _ hi => nomatch hi⟩

theorem tinv_single (name : String) (c : Nat) (v : Int) : TInv [⟨name, c, v⟩] [c] (c + 1) := by
  refine ⟨fun n => ?_, by simp⟩
  rw [proj_single]
  split
  · exact ⟨by simp [crs], by simp [crs], by simp [crs]⟩
  · exact good_nil _ _

theorem tinv_applyOps {s : CSet} {ids : List Nat} {self : Nat} (o : Ops) (h : TInv s ids self) :
    TInv (applyOps false s self ids o) (self :: ids) (self + 1) ∧
      ∀ n, outer (applyOps false s self ids o) (self :: ids) n = outer s ids n := by
  have hs : self ∈ self :: ids := List.mem_cons_self ..
  have hlt : self < self + 1 := Nat.lt_succ_self _
  have key : ∀ n, Good (self :: ids) (self + 1) (proj (applyOps false s self ids o) n) ∧
      outerL (self :: ids) (proj (applyOps false s self ids o) n) = outerL ids (proj s n) := by
    intro n
    rw [proj_applyOps]
    exact opsOn_induction (Q := fun l => Good (self :: ids) (self + 1) l ∧ outerL (self :: ids) l = outerL ids (proj s n))
      o n ⟨good_fresh (h.good n), outerL_fresh (h.good n)⟩
      (fun _ _ hl => ⟨opReset_good hl.1 hs hlt, (opReset_outer hs).trans hl.2⟩)
      (fun _ _ hl => ⟨opTouch_good hl.1 hs hlt, (opTouch_outer hs).trans hl.2⟩)
  refine ⟨⟨fun n => (key n).1, ?_⟩, fun n => (key n).2⟩
  intro i hi
  rcases List.mem_cons.mp hi with rfl | h1
  · exact hlt
  · exact Nat.lt_succ_of_lt (h.idlt i h1)

/-! ### the threaded walk -/

/-- the state threaded through the elements in document order -/
structure Th where
  set : CSet       -- the counters in scope
  ids : List Nat   -- the preceding siblings (and ::before) at this level
  next : Nat       -- next fresh id

def thPseudo (k : ObsKind) (p : Option Ops) (t : Th) : Th × List Obs :=
  match p with
  | none => (t, [])
  | some o =>
    ({ set := applyOps false t.set t.next t.ids o, ids := t.next :: t.ids, next := t.next + 1 },
     (if o.listItem then [⟨.marker, (applyOps false t.set t.next t.ids o).values⟩] else [])
       ++ [⟨k, (applyOps false t.set t.next t.ids o).values⟩])

/-- the initial threaded state (the renderer defines `footnote` for the document) -/
def th0 : Th := { set := [⟨"footnote", 0, 0⟩], ids := [0], next := 1 }

/-- the end of an element: the counters created by its children go out of scope -/
def closeScope (inner : Th) : CSet := inner.set.filter (fun k => !inner.ids.contains k.creator)

mutual
  def thWalk : Elem → Th → Th × List Obs
    | .node dn ops b a ch, t =>
      if dn then (t, [])
      else
        let s := applyOps false t.set t.next t.ids ops
        let mo : List Obs := if ops.listItem then [⟨.marker, s.values⟩] else []
        let r1 := thPseudo .before b { set := s, ids := [], next := t.next + 1 }
        let r2 := thWalkList ch r1.1
        let r3 := thPseudo .after a r2.1
        ({ set := closeScope r3.1, ids := t.next :: t.ids, next := r3.1.next }, mo ++ r1.2 ++ r2.2 ++ r3.2)
  def thWalkList : List Elem → Th → Th × List Obs
    | [], t => (t, [])
    | e :: es, t => ((thWalkList es (thWalk e t).1).1, (thWalk e t).2 ++ (thWalkList es (thWalk e t).1).2)
end

theorem proj_filter_creator (q : Nat → Bool) (s : CSet) (n : String) :
    proj (s.filter (fun k => q k.creator)) n = (proj s n).filter (fun vc => q vc.2) := by
  simp [proj, List.filter_map, List.filter_filter, Function.comp_def, Bool.and_comm]

theorem crs_filter (q : Nat → Bool) (l : PL) : crs (l.filter (fun vc => q vc.2)) = (crs l).filter q := by
  simp [crs, List.filter_map, Function.comp_def]

theorem crs_closeScope (inner : Th) (n : String) :
    crs (proj (closeScope inner) n) = outer inner.set inner.ids n := by
  have h := proj_filter_creator (fun c => !inner.ids.contains c) inner.set n
  exact (congrArg crs h).trans (crs_filter (fun c => !inner.ids.contains c) (proj inner.set n))

theorem outerL_nil (l : PL) : outerL [] l = crs l := by simp [outerL]

/-- what visiting something at one level guarantees -/
structure ThStep (t t' : Th) : Prop where
  inv : TInv t'.set t'.ids t'.next
  outer : ∀ n, outer t'.set t'.ids n = outer t.set t.ids n
  next : t.next ≤ t'.next

theorem ThStep.refl {t : Th} (h : TInv t.set t.ids t.next) : ThStep t t := ⟨h, fun _ => rfl, Nat.le_refl _⟩

theorem ThStep.trans {t1 t2 t3 : Th} (a : ThStep t1 t2) (b : ThStep t2 t3) : ThStep t1 t3 :=
  ⟨b.inv, fun n => by rw [b.outer n, a.outer n], Nat.le_trans a.next b.next⟩

theorem thPseudo_step (k : ObsKind) (p : Option Ops) (t : Th) (h : TInv t.set t.ids t.next) :
    ThStep t (thPseudo k p t).1 := by
  cases p with
  | none => exact ThStep.refl h
  | some o =>
    obtain ⟨h1, o1⟩ := tinv_applyOps o h
    exact ⟨h1, o1, by simp [thPseudo]⟩

theorem close_step {s : CSet} {ids : List Nat} {self : Nat} {r : Th}
    (hs : TInv s (self :: ids) (self + 1)) (hr : ThStep { set := s, ids := [], next := self + 1 } r) :
    TInv (closeScope r) (self :: ids) r.next ∧ ∀ n, crs (proj (closeScope r) n) = crs (proj s n) := by
  have hcr : ∀ n, crs (proj (closeScope r) n) = crs (proj s n) := by
    intro n
    rw [crs_closeScope, hr.outer n]
    exact outerL_nil _
  have hn : self + 1 ≤ r.next := hr.next
  refine ⟨⟨fun n => good_mono (good_of_crs (hs.good n) (hcr n)) hn, ?_⟩, hcr⟩
  intro i hi
  exact Nat.lt_of_lt_of_le (hs.idlt i hi) hn

mutual
  theorem thWalk_step : ∀ (e : Elem) (t : Th), TInv t.set t.ids t.next → ThStep t (thWalk e t).1
    | .node dn ops b a ch, t, h => by
      unfold thWalk
      by_cases hd : dn = true
      · simp only [hd, if_true]; exact ThStep.refl h
      · simp only [hd]
        obtain ⟨h1, o1⟩ := tinv_applyOps ops h
        have hin := tinv_inner h1
        have s1 := thPseudo_step .before b
          { set := applyOps false t.set t.next t.ids ops, ids := [], next := t.next + 1 } hin
        have s2 := thWalkList_step ch _ s1.inv
        have s3 := thPseudo_step .after a _ s2.inv
        have sall := (s1.trans s2).trans s3
        obtain ⟨hc, hcr⟩ := close_step h1 sall
        refine ⟨hc, ?_, ?_⟩
        · intro n
          show outerL (t.next :: t.ids) (proj (closeScope _) n) = _
          unfold outerL
          rw [hcr n]
          exact o1 n
        · exact Nat.le_trans (Nat.le_succ _) sall.next
  theorem thWalkList_step : ∀ (es : List Elem) (t : Th), TInv t.set t.ids t.next → ThStep t (thWalkList es t).1
    | [], t, h => by unfold thWalkList; exact ThStep.refl h
    | e :: es, t, h => by
      unfold thWalkList
      have s1 := thWalk_step e t h
      have s2 := thWalkList_step es _ s1.inv
      exact s1.trans s2
end

end WR.C19
