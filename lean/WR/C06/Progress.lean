/-
  C06 — progress of every token consumer, fuel stability of the component-value builder.
-/
import WR.C06.Lemmas
import WR.C06.Spec
namespace WR.C06
open List

theorem proper_of_tail {r cs : Str} (c : Char) (h : r <:+ cs) : Proper r (c :: cs) :=
  ⟨suf_cons c h, by have := h.length_le; simp; omega⟩

theorem proper_append {t : Str} (r : Str) (ht : t ≠ []) : Proper r (t ++ r) :=
  ⟨suffix_append t r, by have := length_pos_iff.mpr ht; simp; omega⟩

theorem Proper.of_suffix {r' r inp : Str} (h : Proper r inp) (h' : r' <:+ r) : Proper r' inp :=
  ⟨h'.trans h.1, Nat.lt_of_le_of_lt h'.length_le h.2⟩

theorem Proper.take_append {r inp : Str} (h : Proper r inp) :
    inp.take (inp.length - r.length) ++ r = inp := by
  obtain ⟨t, rfl⟩ := h.1
  simp

theorem Proper.take_ne_nil {r inp : Str} (h : Proper r inp) : inp.take (inp.length - r.length) ≠ [] := by
  have := h.2
  simp only [ne_eq, take_eq_nil_iff, not_or]
  exact ⟨by omega, fun h0 => by simp [h0] at this⟩

theorem drop_suffix' (n : Nat) (s : Str) : s.drop n <:+ s := List.drop_suffix n s

/-- What every consumer guarantees about the step it returns on a non-empty input `inp`; after an
unterminated comment the suffix is empty, unless the defect `commentEof` is switched on.  Progress,
`step_eof` and `step_stop_spec` are read off it. -/
def Step.Ok (q : Quirks) (inp : Str) : Step → Prop
  | .eof => False
  | .stop _ r => Proper r inp ∧ (q.commentEof = false → r = [])
  | .leaf _ r | .openB _ r | .openF _ r | .close _ r => Proper r inp

theorem Step.Ok.ite {q : Quirks} {inp : Str} {p : Prop} [Decidable p] {a b : Step}
    (ha : a.Ok q inp) (hb : b.Ok q inp) : (if p then a else b).Ok q inp := by
  split <;> assumption

theorem Step.Ok.proper {q : Quirks} {inp r : Str} {s : Step} (h : s.Ok q inp)
    (hr : s.rest? = some r) : Proper r inp := by
  cases s with
  | eof => exact h.elim
  | stop _ _ => exact Option.some.inj hr ▸ h.1
  | _ => exact Option.some.inj hr ▸ h

theorem consumeDelim_ok (q : Quirks) (pos : Nat) (inp : Str) (h : inp ≠ []) :
    (consumeDelim pos inp).Ok q inp := by
  fun_cases consumeDelim pos inp
  · exact h rfl
  · exact proper_append (t := ['<', '!', '-', '-']) _ (cons_ne_nil _ _)
  · exact proper_append (t := ['|', '|']) _ (cons_ne_nil _ _)
  · exact proper_of_tail _ (suffix_cons _ _)
  · exact proper_of_tail _ (suffix_refl _)
  · exact proper_of_tail _ (suffix_refl _)

theorem consumeName_progress (f : Nat) (c : Char) (cs : Str) (h : startsIdent (c :: cs) = true) :
    (consumeName (f + 1) (c :: cs)).2 <:+ cs := by
  simp only [consumeName]
  split
  · exact consumeName_suffix f cs
  · split
    · exact (consumeName_suffix f _).trans (consumeEscape_suffix cs)
    · -- neither a name code point nor a valid escape: no identifier starts here
      simp [startsIdent, isNameChar] at *
      grind

theorem consumeIdentLike_ok (q : Quirks) (pos : Nat) (c : Char) (cs : Str)
    (h : startsIdent (c :: cs) = true) : (consumeIdentLike q pos (c :: cs)).Ok q (c :: cs) := by
  have hn := consumeName_progress cs.length c cs h
  simp only [consumeIdentLike, length_cons]
  split
  · rename_i rest heq
    rw [heq] at hn
    exact .ite (proper_of_tail c ((consumeUrl_suffix q pos rest).trans (suf_of_cons hn)))
      (proper_of_tail c (suf_of_cons hn))
  · exact proper_of_tail c hn

theorem consumeNumeric_ok (q : Quirks) (pos : Nat) (repr : Str) (isInt : Bool) {rest inp : Str}
    (h : Proper rest inp) : (consumeNumeric pos repr isInt rest).Ok q inp := by
  unfold consumeNumeric
  refine .ite (h.of_suffix (consumeName_suffix _ _)) ?_
  split
  · exact h.of_suffix (suffix_cons _ _)
  · exact h

theorem stepPunct_ok (q : Quirks) (pos : Nat) (c : Char) (cs : Str) :
    (stepPunct q pos c cs).Ok q (c :: cs) := by
  have tail {r : Str} (h : r <:+ cs) : Proper r (c :: cs) := proper_of_tail c h
  have self := tail (suffix_refl cs)
  have name := tail (consumeName_suffix cs.length cs)
  unfold stepPunct
  refine .ite (.ite name self) (.ite ?hash (.ite self (.ite self (.ite self (.ite self
    (.ite ?string (.ite ?slash ?delim)))))))
  case delim => exact consumeDelim_ok q pos _ (cons_ne_nil c cs)
  case hash =>
    split
    · exact .ite name self
    · exact self
  case string =>
    dsimp only
    split <;> exact tail (consumeString_suffix c cs.length cs)
  case slash =>
    split
    · rename_i body
      split
      · rename_i b rest hc
        exact tail (suf_cons _ (consumeComment_suffix body b rest hc))
      · refine ⟨?_, fun hq => by rw [hq]; rfl⟩
        split
        · exact self
        · exact tail nil_suffix
    · exact self

theorem step_ok (q : Quirks) (total : Nat) (c : Char) (cs : Str) :
    (step q total (c :: cs)).Ok q (c :: cs) := by
  unfold step
  dsimp only
  refine .ite (proper_of_tail c (takeWhile_suffix isWs cs))
    (.ite (proper_of_tail c ((consumeURange_suffix _).trans (drop_suffix 1 cs)))
      (.ite (proper_of_tail c (drop_suffix 2 cs)) ?_))
  split
  · rename_i hs
    exact consumeIdentLike_ok q _ c cs hs
  split
  · rename_i repr isInt rest hnum
    have ⟨h1, h2⟩ := consumeNumber_append _ repr rest isInt hnum
    exact consumeNumeric_ok q _ repr isInt (h1 ▸ proper_append rest h2)
  · exact stepPunct_ok q _ c cs

theorem step_eq_stepPunct (q : Quirks) (total : Nat) (c : Char) (cs : Str) (hw : isWs c = false)
    (hu : c ≠ 'u' ∧ c ≠ 'U') (hm : c ≠ '-') (hi : isNameStart c = false ∧ c ≠ '\\')
    (hn : c ≠ '+' ∧ c ≠ '.' ∧ isDigit c = false) :
    step q total (c :: cs) = stepPunct q (total - (c :: cs).length) c cs := by
  have e1 : startsURange (c :: cs) = false := by
    unfold startsURange
    split
    · rename_i heq
      cases heq
      simp [hu]
    · rfl
  have e2 : ((c :: cs).take 3 == ['-', '-', '>']) = false := by simp [hm]
  have e3 : startsIdent (c :: cs) = false := by simp [startsIdent, hi, hm]
  have e4 : consumeNumber (c :: cs) = none := by
    simp [consumeNumber, takeSign, WR.C06.takeWhile, takeFrac, hn, hm]
  simp only [step, hw, e1, e2, e3, e4, if_false, Bool.false_eq_true]

/-- §4.3.1: every token consumer removes at least one code point and leaves a suffix of its input -/
theorem step_progress (q : Quirks) (total : Nat) (inp : Str) :
    ∀ r, (step q total inp).rest? = some r → Proper r inp := by
  intro r hr
  cases inp with
  | nil => cases hr
  | cons c cs => exact (step_ok q total c cs).proper hr

theorem step_proper {q : Quirks} {total : Nat} {inp r : Str} {s : Step} (hs : step q total inp = s)
    (hr : s.rest? = some r) : Proper r inp :=
  step_progress q total inp r (hs ▸ hr)

theorem step_eof (q : Quirks) (total : Nat) (inp : Str) (h : (step q total inp).rest? = none) :
    inp = [] := by
  cases inp with
  | nil => rfl
  | cons c cs =>
    have := step_ok q total c cs
    cases hs : step q total (c :: cs) with
    | eof => exact (hs ▸ this).elim
    | _ => rw [hs] at h; cases h

/-- the only `stop` is the unterminated comment; in the specification it ends the input -/
theorem step_stop_spec (total : Nat) (inp : Str) (ts : List Tok) (r : Str)
    (h : step Quirks.spec total inp = .stop ts r) : r = [] := by
  cases inp with
  | nil => cases h
  | cons c cs =>
    have := step_ok Quirks.spec total c cs
    rw [h] at this
    exact this.2 rfl

theorem consumeList_suffix (q : Quirks) (total f : Nat) (e : Option Char) (inp : Str) :
    (consumeList q total f e inp).2 <:+ inp := by
  induction f generalizing e inp with
  | zero => exact suffix_refl _
  | succ f ih =>
    unfold consumeList
    cases hs : step q total inp with
    | eof => exact nil_suffix
    | leaf _ r => exact (ih e r).trans (step_proper hs rfl).1
    | stop _ r => exact (step_proper hs rfl).1
    | close _ r =>
      dsimp only
      split
      · exact (step_proper hs rfl).1
      · exact (ih e r).trans (step_proper hs rfl).1
    | openB _ r | openF _ r => exact ((ih e _).trans (ih _ r)).trans (step_proper hs rfl).1

theorem consumeList_fuel_succ (q : Quirks) (total f : Nat) (e : Option Char) (inp : Str)
    (h : inp.length < f) : consumeList q total (f + 1) e inp = consumeList q total f e inp := by
  induction f generalizing e inp with
  | zero => omega
  | succ f ih =>
    rw [consumeList.eq_def q total (f + 1 + 1), consumeList.eq_def q total (f + 1)]
    dsimp only
    cases hs : step q total inp with
    | eof | stop _ _ => rfl
    | leaf _ r | close _ r =>
      have hr : r.length < f := by have := (step_proper hs rfl).2; omega
      dsimp only
      rw [ih e r hr]
    | openB _ r | openF _ r =>
      have hr : r.length < f := by have := (step_proper hs rfl).2; omega
      dsimp only
      rw [ih _ r hr, ih e _ (Nat.lt_of_le_of_lt (consumeList_suffix q total f _ r).length_le hr)]

theorem fuel_stable {α : Type} (g : Nat → α) (n : Nat) (h : ∀ f, n ≤ f → g (f + 1) = g f) :
    ∀ f, n ≤ f → g f = g n := by
  intro f hf
  induction f with
  | zero => rw [Nat.le_zero.mp hf]
  | succ f ih =>
    rcases Nat.lt_or_ge f n with hlt | hge
    · rw [show n = f + 1 by omega]
    · rw [h f hge, ih hge]

theorem consumeList_fuel (q : Quirks) (total f : Nat) (e : Option Char) (inp : Str)
    (h : inp.length + 1 ≤ f) : consumeList q total f e inp = consumeList q total (inp.length + 1) e inp :=
  fuel_stable (consumeList q total · e inp) _ (fun f hf => consumeList_fuel_succ q total f e inp hf) f h

theorem consumeList_top_rest (total f : Nat) (inp : Str) (h : inp.length < f) :
    (consumeList Quirks.spec total f none inp).2 = [] := by
  induction f generalizing inp with
  | zero => omega
  | succ f ih =>
    unfold consumeList
    cases hs : step Quirks.spec total inp with
    | eof => rfl
    | stop ts r => exact step_stop_spec total inp ts r hs
    | leaf _ r | close _ r => exact ih r (by have := (step_proper hs rfl).2; omega)
    | openB _ r | openF _ r =>
      have hr : r.length < f := by have := (step_proper hs rfl).2; omega
      exact ih _ (Nat.lt_of_le_of_lt (consumeList_suffix Quirks.spec total f _ r).length_le hr)

theorem consumeName_fuel_succ (f : Nat) (s : Str) (h : s.length ≤ f) :
    consumeName (f + 1) s = consumeName f s := by
  induction f generalizing s with
  | zero => cases s <;> simp_all [consumeName]
  | succ f ih =>
    cases s with
    | nil => simp [consumeName]
    | cons c cs =>
      have h1 : cs.length ≤ f := Nat.le_of_succ_le_succ h
      have h2 := Nat.le_trans (consumeEscape_suffix cs).length_le h1
      rw [consumeName.eq_def (f + 1 + 1), consumeName.eq_def (f + 1)]
      simp only [ih cs h1, ih _ h2]

theorem consumeName_fuel (f : Nat) (s : Str) (h : s.length ≤ f) :
    consumeName f s = consumeName s.length s :=
  fuel_stable (consumeName · s) _ (consumeName_fuel_succ · s) f h

theorem consumeString_fuel_succ (q : Char) (f : Nat) (s : Str) (h : s.length ≤ f) :
    consumeString q (f + 1) s = consumeString q f s := by
  induction f generalizing s with
  | zero => cases s <;> simp_all [consumeString]
  | succ f ih =>
    cases s with
    | nil => simp [consumeString]
    | cons c cs =>
      have h1 : cs.length ≤ f := Nat.le_of_succ_le_succ h
      have h2 := Nat.le_trans (consumeEscape_suffix cs).length_le h1
      rw [consumeString.eq_def q (f + 1 + 1), consumeString.eq_def q (f + 1)]
      simp only [ih cs h1, ih _ h2]
      -- what is left to compare is the branch `\` newline, under three `if`s
      congr 3
      split
      · rfl
      · exact ih _ (Nat.le_of_succ_le h1)
      · rfl

theorem consumeString_fuel (q : Char) (f : Nat) (s : Str) (h : s.length ≤ f) :
    consumeString q f s = consumeString q s.length s :=
  fuel_stable (consumeString q · s) _ (consumeString_fuel_succ q · s) f h

theorem consumeUrlBody_fuel_succ (q : Quirks) (f : Nat) (s : Str) (h : s.length ≤ f) :
    consumeUrlBody q (f + 1) s = consumeUrlBody q f s := by
  induction f generalizing s with
  | zero => cases s <;> simp_all [consumeUrlBody]
  | succ f ih =>
    cases s with
    | nil => simp [consumeUrlBody]
    | cons c cs =>
      have h1 : cs.length ≤ f := Nat.le_of_succ_le_succ h
      have h2 := Nat.le_trans (consumeEscape_suffix cs).length_le h1
      rw [consumeUrlBody.eq_def q (f + 1 + 1), consumeUrlBody.eq_def q (f + 1)]
      simp only [ih cs h1, ih _ h2]

theorem consumeUrlBody_fuel (q : Quirks) (f : Nat) (s : Str) (h : s.length ≤ f) :
    consumeUrlBody q f s = consumeUrlBody q s.length s :=
  fuel_stable (consumeUrlBody q · s) _ (consumeUrlBody_fuel_succ q · s) f h

theorem badUrlRemnants_fuel_succ (q : Quirks) (f : Nat) (s : Str) (h : s.length ≤ f) :
    badUrlRemnants q (f + 1) s = badUrlRemnants q f s := by
  induction f generalizing s with
  | zero => cases s <;> simp_all [badUrlRemnants]
  | succ f ih =>
    cases s with
    | nil => simp [badUrlRemnants]
    | cons c cs =>
      have h1 : cs.length ≤ f := Nat.le_of_succ_le_succ h
      have h2 := Nat.le_trans (consumeEscape_suffix cs).length_le h1
      rw [badUrlRemnants.eq_def q (f + 1 + 1), badUrlRemnants.eq_def q (f + 1)]
      simp only [ih cs h1, ih _ h2]
      -- what is left to compare is the branch `\)` of the defect `badUrlPair`, under three `if`s
      congr 3
      split
      · exact ih _ (Nat.le_of_succ_le h1)
      · rfl

theorem badUrlRemnants_fuel (q : Quirks) (f : Nat) (s : Str) (h : s.length ≤ f) :
    badUrlRemnants q f s = badUrlRemnants q s.length s :=
  fuel_stable (badUrlRemnants q · s) _ (badUrlRemnants_fuel_succ q · s) f h

end WR.C06
