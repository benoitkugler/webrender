/-
  C06 — exact extents of the parser-level consumers (declarations, at-rules, qualified rules, block contents)
  and fuel stability of the list loops.  The four scanners `splitSemi`, `atRuleBody`, `qruleBody`,
  `splitBlockContent` walk over tokens that do not stop them (`*_append`); the extents at `;`, at a `{}`
  block and at the end of the input are instances.
-/
import WR.C06.Progress
namespace WR.C06
open List

theorem isCurly_block (p : Nat) (a : List Tok) : isCurly (.block p .curly a) = true := rfl

theorem splitSemi_append (d rest : List Tok) (hd : noSemi d) :
    splitSemi (d ++ rest) = (d ++ (splitSemi rest).1, (splitSemi rest).2) := by
  induction d with
  | nil => rfl
  | cons t ts ih =>
    have ⟨ht, hts⟩ := forall_mem_cons.mp hd
    rw [cons_append, splitSemi, ht, ih hts]
    rfl

theorem splitSemi_semi (d r : List Tok) (semi : Tok) (hd : noSemi d) (hs : isSemi semi = true) :
    splitSemi (d ++ semi :: r) = (d, r) := by
  rw [splitSemi_append d _ hd, splitSemi, if_pos hs, append_nil]

theorem splitSemi_eof (d : List Tok) (hd : noSemi d) : splitSemi d = (d, []) := by
  simpa [splitSemi] using splitSemi_append d [] hd

theorem splitSemi_suffix (ts : List Tok) : (splitSemi ts).2 <:+ ts := by
  induction ts with
  | nil => exact suffix_refl _
  | cons t ts ih =>
    rw [splitSemi]
    split
    · exact suffix_cons _ _
    · exact ih.trans (suffix_cons _ _)

theorem atRuleBody_append (pre rest : List Tok) (hp : noSemiNoCurly pre) :
    atRuleBody (pre ++ rest)
      = (pre ++ (atRuleBody rest).1, (atRuleBody rest).2.1, (atRuleBody rest).2.2) := by
  induction pre with
  | nil => rfl
  | cons t ts ih =>
    have ⟨ht, hts⟩ := forall_mem_cons.mp hp
    -- the equation of `atRuleBody` for a token that is not a `{}` block
    rw [cons_append, atRuleBody, ht.1, ih hts]
    · rfl
    · rintro _ _ rfl
      cases ht.2

theorem atRuleBody_curly (pre r : List Tok) (p : Nat) (args : List Tok) (hp : noSemiNoCurly pre) :
    atRuleBody (pre ++ Tok.block p .curly args :: r) = (pre, some args, r) := by
  rw [atRuleBody_append pre _ hp, atRuleBody, append_nil]

theorem atRuleBody_semi (pre r : List Tok) (semi : Tok) (hs : isSemi semi = true)
    (hp : ∀ t ∈ pre, isSemi t = false ∧ isCurly t = false) :
    atRuleBody (pre ++ semi :: r) = (pre, none, r) := by
  rw [atRuleBody_append pre _ hp, atRuleBody, if_pos hs, append_nil]
  rintro _ _ rfl
  cases hs

theorem atRuleBody_eof (pre : List Tok) (hp : noSemiNoCurly pre) : atRuleBody pre = (pre, none, []) := by
  simpa [atRuleBody] using atRuleBody_append pre [] hp

theorem atRuleBody_suffix (ts : List Tok) : (atRuleBody ts).2.2 <:+ ts := by
  induction ts with
  | nil => exact suffix_refl _
  | cons t ts ih =>
    rw [atRuleBody.eq_def]
    dsimp only
    split
    · exact suffix_cons _ _
    · split
      · exact suffix_cons _ _
      · exact ih.trans (suffix_cons _ _)

theorem qruleBody_append (b : Bool) (pre rest : List Tok)
    (hp : ∀ t ∈ pre, isCurly t = false ∧ (b = true → isSemi t = false)) :
    qruleBody b (pre ++ rest)
      = (pre ++ (qruleBody b rest).1, (qruleBody b rest).2.1, (qruleBody b rest).2.2) := by
  induction pre with
  | nil => rfl
  | cons t ts ih =>
    have ⟨ht, hts⟩ := forall_mem_cons.mp hp
    have hs : (b && isSemi t) = false := by cases b <;> simp [ht.2]
    rw [cons_append, qruleBody, hs, ih hts]
    · rfl
    · rintro _ _ rfl
      cases ht.1

theorem qruleBody_curly (b : Bool) (pre r : List Tok) (p : Nat) (args : List Tok)
    (hp : ∀ t ∈ pre, isCurly t = false ∧ (b = true → isSemi t = false)) :
    qruleBody b (pre ++ Tok.block p .curly args :: r) = (pre, .block args, r) := by
  rw [qruleBody_append b pre _ hp, qruleBody]
  simp [isSemi, isLit]

theorem consumeQualifiedRule_curly (b : Bool) (first : Tok) (pre r : List Tok) (p : Nat)
    (args : List Tok) (hc : isCurly first = false) (hs : b = true → isSemi first = false)
    (hp : ∀ t ∈ pre, isCurly t = false ∧ (b = true → isSemi t = false)) :
    consumeQualifiedRule first (pre ++ Tok.block p .curly args :: r) b
      = (.qrule first.pos (first :: pre) args, r) := by
  have hs' : (b && isSemi first) = false := by cases b <;> simp [hs]
  rw [consumeQualifiedRule, hs', qruleBody_curly b pre r p args hp]
  · rfl
  · rintro _ _ rfl
    cases hc

theorem qruleBody_suffix (b : Bool) (ts : List Tok) : (qruleBody b ts).2.2 <:+ ts := by
  induction ts with
  | nil => exact suffix_refl _
  | cons t ts ih =>
    rw [qruleBody.eq_def]
    dsimp only
    split
    · exact suffix_cons _ _
    · split
      · exact suffix_cons _ _
      · exact ih.trans (suffix_cons _ _)

theorem splitBlockContent_append (d rest : List Tok) (hd : noSemiNoCurly d) :
    splitBlockContent (d ++ rest) = (d ++ (splitBlockContent rest).1,
      (splitBlockContent rest).2.1, (splitBlockContent rest).2.2) := by
  induction d with
  | nil => rfl
  | cons t ts ih =>
    have ⟨ht, hts⟩ := forall_mem_cons.mp hd
    rw [cons_append, splitBlockContent, ht.1, ht.2, ih hts]
    rfl

theorem splitBlockContent_semi (d r : List Tok) (semi : Tok) (hd : noSemiNoCurly d)
    (hs : isSemi semi = true) : splitBlockContent (d ++ semi :: r) = (d, [semi], r) := by
  rw [splitBlockContent_append d _ hd, splitBlockContent, if_pos hs, append_nil]

theorem splitBlockContent_curly (d r : List Tok) (p : Nat) (args : List Tok) (hd : noSemiNoCurly d) :
    splitBlockContent (d ++ Tok.block p .curly args :: r) = (d ++ [Tok.block p .curly args], [], r) := by
  rw [splitBlockContent_append d _ hd]
  rfl

theorem splitBlockContent_suffix (ts : List Tok) : (splitBlockContent ts).2.2 <:+ ts := by
  induction ts with
  | nil => exact suffix_refl _
  | cons t ts ih =>
    rw [splitBlockContent]
    split
    · exact suffix_cons _ _
    · split
      · exact suffix_cons _ _
      · exact ih.trans (suffix_cons _ _)

theorem consumeQualifiedRule_suffix (first : Tok) (ts : List Tok) (b : Bool) :
    (consumeQualifiedRule first ts b).2 <:+ ts := by
  have := qruleBody_suffix b ts
  fun_cases consumeQualifiedRule first ts b <;> grind [suffix_refl]

theorem consumeRule_suffix (first : Tok) (ts : List Tok) : (consumeRule first ts).2 <:+ ts := by
  unfold consumeRule
  split
  · exact atRuleBody_suffix ts
  · exact consumeQualifiedRule_suffix first ts false

theorem consumeBlocksContent_snd (first : Tok) (ts : List Tok) :
    (consumeBlocksContent first ts).2 = if isCurly first then ts else (splitBlockContent ts).2.2 := by
  unfold consumeBlocksContent
  split <;> dsimp only <;> split <;> rfl

theorem consumeBlocksContent_suffix (first : Tok) (ts : List Tok) :
    (consumeBlocksContent first ts).2 <:+ ts := by
  rw [consumeBlocksContent_snd]
  split
  · exact suffix_refl ts
  · exact splitBlockContent_suffix ts

theorem consumeOne_suffix (m : Mode) (t : Tok) (ts : List Tok) : (consumeOne m t ts).2 <:+ ts := by
  unfold consumeOne
  cases m <;> dsimp only
  · split
    · exact suffix_refl ts
    · exact consumeRule_suffix t ts
  · exact consumeRule_suffix t ts
  · split
    · exact atRuleBody_suffix ts
    · split
      · exact suffix_refl ts
      · exact splitSemi_suffix ts
  · split
    · exact atRuleBody_suffix ts
    · split
      · exact suffix_refl ts
      · exact consumeBlocksContent_suffix t ts

theorem consumeOne_decls {t : Tok} (ts : List Tok) (h : startsDecl t) :
    consumeOne .decls t ts = (some (consumeDeclInList t ts).1, (consumeDeclInList t ts).2) := by
  rw [consumeOne, h.2.1]
  · rfl
  · exact h.2.2

theorem parseListF_fuel_succ (m : Mode) (c w : Bool) (f : Nat) (ts : List Tok) (h : ts.length ≤ f) :
    parseListF m c w (f + 1) ts = parseListF m c w f ts := by
  induction f generalizing ts with
  | zero => cases ts <;> simp_all [parseListF]
  | succ f ih =>
    cases ts with
    | nil => simp [parseListF]
    | cons t ts =>
      have h1 : ts.length ≤ f := Nat.le_of_succ_le_succ h
      have h2 := Nat.le_trans (consumeOne_suffix m t ts).length_le h1
      rw [parseListF.eq_def m c w (f + 1 + 1), parseListF.eq_def m c w (f + 1)]
      simp only [ih ts h1, ih _ h2]

theorem parseListF_fuel (m : Mode) (c w : Bool) (f : Nat) (ts : List Tok) (h : ts.length ≤ f) :
    parseListF m c w f ts = parseList m c w ts :=
  fuel_stable (parseListF m c w · ts) _ (parseListF_fuel_succ m c w · ts) f h

theorem parseList_cons (m : Mode) (c w : Bool) (t : Tok) (ts : List Tok) (ht : isTrivia t = false) :
    parseList m c w (t :: ts) = (consumeOne m t ts).1.toList ++ parseList m c w (consumeOne m t ts).2 := by
  rw [parseList, length_cons, parseListF]
  · rw [parseListF_fuel _ _ _ _ _ (consumeOne_suffix m t ts).length_le]
  all_goals rintro _ _ rfl; cases ht

theorem parseList_cons_ws (m : Mode) (c w : Bool) (p : Nat) (v : Str) (ts : List Tok) :
    parseList m c w (Tok.ws p v :: ts) = (if w then [] else [Compound.ws p v]) ++ parseList m c w ts := by
  rw [parseList, List.length_cons, parseListF.eq_def]
  simp [parseList]

theorem parseList_cons_comment (m : Mode) (c w : Bool) (p : Nat) (v : Str) (ts : List Tok) :
    parseList m c w (Tok.comment p v :: ts) = (if c then [] else [Compound.comment p v]) ++ parseList m c w ts := by
  rw [parseList, List.length_cons, parseListF.eq_def]
  simp [parseList]

end WR.C06
