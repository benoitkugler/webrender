/-
  C06 — every consumer returns a genuine suffix of its input (so a token's source text is a contiguous piece
  of the input and nothing is re-assembled), and copies the code points that end nothing.
-/
import WR.C06.Parser
namespace WR.C06
open List

theorem suf_cons {l s : Str} (c : Char) (h : l <:+ s) : l <:+ c :: s := h.trans (suffix_cons c s)
theorem suf_of_cons {l s : Str} {c : Char} (h : c :: l <:+ s) : l <:+ s := (suffix_cons c l).trans h

theorem takeWhile_append (p : Char → Bool) (s : Str) : (takeWhile p s).1 ++ (takeWhile p s).2 = s := by
  fun_induction takeWhile p s with
  | case1 | case3 => rfl
  | case2 c cs _ r ih => exact congrArg (c :: ·) ih

theorem takeSign_append (s : Str) : (takeSign s).1 ++ (takeSign s).2 = s := by
  fun_cases takeSign s <;> rfl

theorem takeFrac_append (s : Str) : (takeFrac s).1 ++ (takeFrac s).2 = s := by
  fun_cases takeFrac s with
  | case1 d cs _ r => exact congrArg ('.' :: ·) (takeWhile_append isDigit (d :: cs))
  | case2 | case3 => rfl

theorem takeExp_append (s : Str) : (takeExp s).1 ++ (takeExp s).2 = s := by
  fun_cases takeExp s with
  | case2 e cs _ sg d _ =>
    simp only [cons_append, append_assoc, d, takeWhile_append, sg, takeSign_append]
  | case1 | case3 | case4 => rfl

theorem consumeNumber_append (inp repr rest : Str) (isInt : Bool)
    (h : consumeNumber inp = some (repr, isInt, rest)) : repr ++ rest = inp ∧ repr ≠ [] := by
  unfold consumeNumber at h
  dsimp only at h
  split at h
  · cases h
  · rename_i hne
    cases h
    constructor
    · rw [append_assoc, append_assoc, append_assoc, takeExp_append, takeFrac_append, takeWhile_append,
        takeSign_append]
    · intro hnil
      simp only [append_eq_nil_iff] at hnil
      simp [hnil] at hne

theorem takeWhile_suffix (p : Char → Bool) (s : Str) : (takeWhile p s).2 <:+ s :=
  ⟨_, takeWhile_append p s⟩

theorem takeFrac_suffix (s : Str) : (takeFrac s).2 <:+ s := ⟨_, takeFrac_append s⟩

theorem takeExp_suffix (s : Str) : (takeExp s).2 <:+ s := ⟨_, takeExp_append s⟩

/-! In the proofs by functional induction below, `‹_›` is the induction hypothesis of the case. -/

theorem takeHex_suffix (n acc : Nat) (s : Str) : (takeHex n acc s).2.2 <:+ s := by
  fun_induction takeHex n acc s with
  | case1 | case2 | case4 => exact suffix_refl _
  | case3 => exact suf_cons _ ‹_›

theorem consumeEscape_suffix (s : Str) : (consumeEscape s).2 <:+ s := by
  fun_cases consumeEscape s with
  | case1 => exact suffix_refl _
  | case2 c cs _ r w rest hr => exact suf_of_cons (hr ▸ takeHex_suffix 6 0 (c :: cs))
  | case3 c cs _ r w rest hr => exact hr ▸ takeHex_suffix 6 0 (c :: cs)
  | case4 => exact nil_suffix
  | case5 => exact suffix_cons _ _

theorem consumeName_suffix (f : Nat) (s : Str) : (consumeName f s).2 <:+ s := by
  fun_induction consumeName f s with
  | case1 | case2 | case5 => exact suffix_refl _
  | case3 => exact suf_cons _ ‹_›
  | case4 => exact suf_cons _ (IsSuffix.trans ‹_› (consumeEscape_suffix _))

theorem consumeString_suffix (q : Char) (f : Nat) (s : Str) : (consumeString q f s).2.2 <:+ s := by
  fun_induction consumeString q f s with
  | case1 | case2 | case4 => exact suffix_refl _
  | case3 => exact suffix_cons _ _
  | case5 => exact nil_suffix
  | case6 => exact suf_cons _ (suf_cons _ ‹_›)
  | case7 => exact suf_cons _ (IsSuffix.trans ‹_› (consumeEscape_suffix _))
  | case8 => exact suf_cons _ ‹_›

theorem badUrlRemnants_suffix (q : Quirks) (f : Nat) (s : Str) : badUrlRemnants q f s <:+ s := by
  fun_induction badUrlRemnants q f s with
  | case1 | case2 => exact suffix_refl _
  | case3 => exact suffix_cons _ _
  | case4 => exact suf_cons _ (suf_cons _ ‹_›)
  | case6 => exact suf_cons _ (IsSuffix.trans ‹_› (consumeEscape_suffix _))
  | case5 | case7 | case8 => exact suf_cons _ ‹_›

theorem urlAfterWs_suffix (s : Str) : (urlAfterWs s).2 <:+ s := by
  have h := takeWhile_suffix isWs s
  fun_cases urlAfterWs s with
  | case1 => exact nil_suffix
  | case2 cs hr => exact suf_of_cons (hr ▸ h)
  | case3 c cs hr => exact hr ▸ h

theorem consumeUrlBody_suffix (q : Quirks) (f : Nat) (s : Str) : (consumeUrlBody q f s).2.2 <:+ s := by
  fun_induction consumeUrlBody q f s with
  | case1 | case2 => exact suffix_refl _
  | case3 | case7 | case8 => exact suffix_cons _ _
  | case4 => exact suf_cons _ (urlAfterWs_suffix _)
  | case5 => exact suf_cons _ (IsSuffix.trans ‹_› (consumeEscape_suffix _))
  | case6 | case9 => exact suf_cons _ ‹_›

theorem consumeUrl_suffix (q : Quirks) (pos : Nat) (s : Str) : (consumeUrl q pos s).2 <:+ s := by
  have h1 := takeWhile_suffix isWs s
  have h2 := (consumeUrlBody_suffix q (takeWhile isWs s).2.length (takeWhile isWs s).2).trans h1
  fun_cases consumeUrl q pos s with
  | case1 | case2 => exact h2
  | case3 => exact (badUrlRemnants_suffix q _ _).trans h2

theorem takeQ_suffix (n : Nat) (s : Str) : (takeQ n s).2 <:+ s := by
  fun_induction takeQ n s with
  | case1 | case2 | case4 => exact suffix_refl _
  | case3 => exact suf_cons _ ‹_›

theorem consumeURange_suffix (s : Str) : (consumeURange s).2.2 <:+ s := by
  have h1 := takeHex_suffix 6 0 s
  fun_cases consumeURange s with
  | case1 => exact (takeQ_suffix _ _).trans h1
  | case2 h qm hq d cs heq hd e =>
    exact (takeHex_suffix 6 0 (d :: cs)).trans (suf_of_cons (heq ▸ h1))
  | case3 | case4 => exact h1

theorem consumeComment_suffix (s b r : Str) (h : consumeComment s = some (b, r)) : r <:+ s := by
  fun_induction consumeComment s generalizing b r with
  | case1 | case4 => cases h
  | case2 => cases h; exact suf_cons _ (suffix_cons _ _)
  | case3 c cs _ b' r' heq ih => cases h; exact suf_cons c (ih b' r' heq)

theorem consumeString_append (quote : Char) (s rest : Str) (f : Nat)
    (hs : ∀ c ∈ s, c ≠ quote ∧ c ≠ '\n' ∧ c ≠ '\\') :
    consumeString quote (s.length + f) (s ++ rest)
      = (s ++ (consumeString quote f rest).1, (consumeString quote f rest).2) := by
  induction s with
  | nil => rw [length_nil, Nat.zero_add]; rfl
  | cons c cs ih =>
    have ⟨hc, hcs⟩ := forall_mem_cons.mp hs
    rw [length_cons, Nat.add_right_comm, cons_append, consumeString.eq_def]
    dsimp only
    rw [if_neg hc.1, if_neg hc.2.1, if_neg hc.2.2, ih hcs]
    rfl

theorem badUrlRemnants_append (q : Quirks) (s rest : Str) (f : Nat)
    (hs : ∀ c ∈ s, c ≠ ')' ∧ c ≠ '\\') :
    badUrlRemnants q (s.length + f) (s ++ rest) = badUrlRemnants q f rest := by
  induction s with
  | nil => rw [length_nil, Nat.zero_add]; rfl
  | cons c cs ih =>
    have ⟨hc, hcs⟩ := forall_mem_cons.mp hs
    rw [length_cons, Nat.add_right_comm, cons_append, badUrlRemnants.eq_def]
    dsimp only
    rw [if_neg hc.1, if_neg hc.2, ih hcs]

theorem badUrlRemnants_close (q : Quirks) (s r : Str) (f : Nat) (hf : s.length < f)
    (hs : ∀ c ∈ s, c ≠ ')' ∧ c ≠ '\\') : badUrlRemnants q f (s ++ ')' :: r) = r := by
  obtain ⟨k, rfl⟩ := Nat.exists_eq_add_of_lt hf
  rw [Nat.add_assoc, badUrlRemnants_append q s _ _ hs, badUrlRemnants.eq_def]
  dsimp only
  rw [if_pos rfl]

end WR.C06
