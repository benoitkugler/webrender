/-
  C13 — columns (in either direction), the rows of a group and the row groups of a table are laid out the
  same way: one track after the other with a spacing in between (`Chained`).  The `Spaced` / `Fills` /
  `GroupRows` clauses of the spec are read off a chain; a cell reaches from the start of its first track
  to the end of its last, a run of the chain (for rtl columns: of the reversed list).
-/
import WR.C13.Model
import WR.C13.Spec
namespace WR.C13

def columnTracks (rtl : Bool) (tx tw sx : Rat) (ws : List Rat) : List Track :=
  List.zipWith Track.mk (columnPositions rtl tx tw sx ws) ws

/-- "the column part of `g` was computed by the model from the column widths `ws`" -/
def ModelColumns (g : Grid) (ws : List Rat) : Prop :=
  g.cols = columnTracks g.rtl g.tx g.tw g.sx ws ∧
  ∀ c ∈ g.cells, ∃ ci : CellIn, ∃ o : CellOut,
    placeCell g.rtl g.sx ws (columnPositions g.rtl g.tx g.tw g.sx ws) ci = some o ∧
    c.gx = o.gx ∧ c.cs = o.cs ∧ c.x = o.x ∧ c.w = o.width + ci.bpp ∧ c.cw = o.width

theorem sumR_cons (a : Rat) (l : List Rat) : sumR (a :: l) = a + sumR l := by simp [sumR]
theorem sumR_nil : sumR [] = 0 := by simp [sumR]
theorem sumR_append (a b : List Rat) : sumR (a ++ b) = sumR a + sumR b := by simp [sumR, List.sum_append]

theorem sizes_eq (ts : List Track) : sizes ts = sumR (ts.map (·.size)) := rfl

theorem natCast_succ_sub_one (n : Nat) : ((n + 1 : Nat) : Rat) - 1 = n := by
  rw [Rat.natCast_add]; exact Rat.add_sub_cancel

theorem sumR_map_add (l : List Rat) (c : Rat) : sumR (l.map (· + c)) = sumR l + (l.length : Rat) * c := by
  induction l with
  | nil => simp [sumR, Rat.add_zero]
  | cons a r ih =>
    simp only [List.map_cons, sumR_cons, ih, List.length_cons]
    rw [Rat.natCast_add]; grind

theorem rat_div_nonneg (a b : Rat) (ha : 0 ≤ a) (hb : 0 < b) : 0 ≤ a / b := by
  rw [Rat.div_def]; exact Rat.mul_nonneg ha (Rat.le_of_lt (Rat.inv_pos.mpr hb))

theorem maxR_ge_right (a b : Rat) : b ≤ maxR a b := by
  unfold maxR; split
  · exact Rat.le_refl
  · rename_i h; exact Rat.not_lt.mp h

theorem maxR_ge_left (a b : Rat) : a ≤ maxR a b := by
  unfold maxR; split
  · rename_i h; exact Rat.le_of_lt h
  · exact Rat.le_refl

theorem maxR_zero_of_nonneg {x : Rat} (h : 0 ≤ x) : maxR 0 x = x := by
  unfold maxR; split
  · rfl
  · next hn => exact Rat.le_antisymm h (Rat.not_lt.mp hn)

theorem maxR_zero_of_nonpos {x : Rat} (h : x ≤ 0) : maxR 0 x = 0 := if_neg (Rat.not_lt.mpr h)

theorem near_of_eq {a b : Rat} (h : a = b) : near 0 a b := by
  have h' : a ≤ b + 0 := by rw [h, Rat.add_zero]; exact Rat.le_refl
  exact ⟨h', h ▸ h'⟩

theorem same_track {ts : List Track} {i j : Nat} {a b : Track} (ha : ts[i]? = some a) (hb : ts[j]? = some b)
    (h : i = j) : a = b := by
  subst h
  rw [ha] at hb
  exact Option.some.inj hb

/-- `e` is the position after the last track and its spacing -/
def Chained (s : Rat) : Rat → List Track → Rat → Prop
  | y, [], e => e = y
  | y, t :: r, e => t.pos = y ∧ Chained s (y + t.size + s) r e

theorem chained_spaced (s : Rat) (ts : List Track) : ∀ (y e : Rat), Chained s y ts e → Spaced 0 s ts := by
  induction ts with
  | nil => intro y e _; trivial
  | cons t r ih =>
    intro y e hc
    cases r with
    | nil => trivial
    | cons t' r' => exact ⟨near_of_eq (by rw [hc.2.1, hc.1]), ih _ _ hc.2⟩

theorem chained_ends (s : Rat) (ts : List Track) : ∀ (y e : Rat), Chained s y ts e →
    ∀ a b, ts.head? = some a → ts.getLast? = some b → a.pos = y ∧ b.pos + b.size + s = e := by
  induction ts with
  | nil => intro y e _ a b ha; cases ha
  | cons t r ih =>
    intro y e hc a b ha hb
    cases ha
    refine ⟨hc.1, ?_⟩
    cases r with
    | nil => rw [List.getLast?_singleton] at hb; cases hb; rw [hc.2, hc.1]
    | cons t' r' => exact (ih _ _ hc.2 t' b rfl (by rwa [List.getLast?_cons_cons] at hb)).2

theorem chained_snoc (s : Rat) (t : Track) : ∀ (ts : List Track) (y : Rat), Chained s y ts t.pos →
    Chained s y (ts ++ [t]) (t.pos + t.size + s) := by
  intro ts
  induction ts with
  | nil => intro y h; exact ⟨h, by rw [h]; rfl⟩
  | cons a r ih => intro y h; exact ⟨h.1, ih _ h.2⟩

theorem chained_fills (s lo hi y e : Rat) (ts : List Track) (h : Chained s y ts e)
    (hne : ts ≠ [] → y = lo + s ∧ e = hi) : Fills 0 s lo hi ts := by
  unfold Fills
  split
  · next a b ha hb =>
    obtain ⟨h1, h2⟩ := chained_ends s ts y e h a b ha hb
    obtain ⟨h3, h4⟩ := hne (by intro h0; rw [h0] at ha; cases ha)
    exact ⟨near_of_eq (h1.trans h3), chained_spaced s ts y e h, near_of_eq (h2.trans h4)⟩
  · trivial

theorem chained_drop (s : Rat) (ts : List Track) : ∀ (y e : Rat), Chained s y ts e →
    ∀ (i : Nat) (a : Track), ts[i]? = some a → Chained s a.pos (ts.drop i) e := by
  induction ts with
  | nil => intro y e _ i a ha; simp at ha
  | cons t r ih =>
    intro y e h i a ha
    cases i with
    | zero => cases ha; exact ⟨rfl, h.1 ▸ h.2⟩
    | succ i => exact ih _ _ h.2 i a ha

theorem chained_run (s : Rat) (ts : List Track) : ∀ (y e : Rat), Chained s y ts e →
    ∀ (n : Nat) (b : Track), ts[n]? = some b → b.pos + b.size = y + (sizes (ts.take (n + 1)) + s * (n : Rat)) := by
  induction ts with
  | nil => intro y e _ n b hb; simp at hb
  | cons t r ih =>
    intro y e h n b hb
    cases n with
    | zero => cases hb; rw [h.1]; simp [sizes, Rat.add_zero, Rat.mul_zero]
    | succ n =>
      rw [ih _ _ h.2 n b hb, List.take_succ_cons, Rat.natCast_add]
      simp only [sizes, List.map_cons, List.sum_cons]; grind

theorem chained_span (s y e : Rat) (ts : List Track) (h : Chained s y ts e) (i n : Nat) (a b : Track)
    (ha : ts[i]? = some a) (hb : ts[i + n]? = some b) :
    b.pos + b.size = a.pos + (sizes ((ts.drop i).take (n + 1)) + s * (n : Rat)) :=
  chained_run s _ _ _ (chained_drop s ts y e h i a ha) n b (by rw [List.getElem?_drop]; exact hb)

theorem chained_le (s : Rat) (ts : List Track) (hs : 0 ≤ s) : ∀ (y e : Rat), Chained s y ts e →
    (∀ t ∈ ts, 0 ≤ t.size) → ∀ (k : Nat) (b : Track), ts[k]? = some b → y ≤ b.pos := by
  induction ts with
  | nil => intro y e _ _ k b hb; simp at hb
  | cons t r ih =>
    intro y e h hnn k b hb
    cases k with
    | zero => cases hb; rw [h.1]; exact Rat.le_refl
    | succ k =>
      have h1 := ih _ _ h.2 (fun t' ht' => hnn t' (List.mem_cons_of_mem _ ht')) k b hb
      have h2 := hnn t List.mem_cons_self
      grind

theorem chained_below (s : Rat) (ts : List Track) (y e : Rat) (hch : Chained s y ts e)
    (hnn : ∀ t ∈ ts, 0 ≤ t.size) (hs : 0 ≤ s) (i j : Nat) (hij : i < j) (a b : Track)
    (ha : ts[i]? = some a) (hb : ts[j]? = some b) : a.pos + a.size ≤ b.pos := by
  obtain ⟨k, rfl⟩ := Nat.exists_eq_add_of_lt hij
  have hd := chained_drop s ts y e hch i a ha
  rw [List.drop_eq_getElem_cons (List.getElem?_eq_some_iff.mp ha).1] at hd
  have := chained_le s _ hs _ _ hd.2 (fun t ht => hnn t (List.mem_of_mem_drop ht)) k b
    (by rw [List.getElem?_drop, ← hb]; congr 1; omega)
  grind

theorem posLtr_length (sx x : Rat) (ws : List Rat) : (posLtr sx x ws).length = ws.length := by
  induction ws generalizing x with
  | nil => rfl
  | cons w r ih => simp [posLtr, ih]

theorem posRtl_length (sx x : Rat) (ws : List Rat) : (posRtl sx x ws).length = ws.length := by
  induction ws generalizing x with
  | nil => rfl
  | cons w r ih => simp [posRtl, ih]

theorem posLtr_chained (sx : Rat) (ws : List Rat) : ∀ x : Rat,
    Chained sx (x + sx) (List.zipWith Track.mk (posLtr sx x ws) ws) (x + sx + sumR ws + sx * (ws.length : Rat)) := by
  induction ws with
  | nil => intro x; simp [posLtr, Chained, sumR, Rat.add_zero, Rat.mul_zero]
  | cons w r ih =>
    intro x
    have e : x + sx + sumR (w :: r) + sx * ((w :: r).length : Rat) =
        x + sx + w + sx + sumR r + sx * (r.length : Rat) := by
      rw [sumR_cons, List.length_cons, Rat.natCast_add]; grind
    rw [e]; exact ⟨rfl, ih (x + sx + w)⟩

theorem posRtl_chained (sx : Rat) (ws : List Rat) : ∀ x : Rat,
    Chained sx (x - sumR ws - sx * (ws.length : Rat)) (List.zipWith Track.mk (posRtl sx x ws) ws).reverse x := by
  induction ws with
  | nil => intro x; simp [posRtl, Chained, sumR]; grind
  | cons w r ih =>
    intro x
    have e : x - sumR (w :: r) - sx * ((w :: r).length : Rat) = x - sx - w - sumR r - sx * (r.length : Rat) := by
      rw [sumR_cons, List.length_cons, Rat.natCast_add]; grind
    have := chained_snoc sx ⟨x - sx - w, w⟩ _ _ (ih (x - sx - w))
    rw [show x - sx - w + w + sx = x by grind] at this
    simp only [posRtl, List.zipWith_cons_cons, List.reverse_cons]
    rw [e]; exact this

theorem columnPositions_length (rtl : Bool) (tx tw sx : Rat) (ws : List Rat) :
    (columnPositions rtl tx tw sx ws).length = ws.length := by
  unfold columnPositions; split
  · exact posRtl_length ..
  · exact posLtr_length ..

theorem columnTracks_length (rtl : Bool) (tx tw sx : Rat) (ws : List Rat) :
    (columnTracks rtl tx tw sx ws).length = ws.length := by
  rw [columnTracks, List.length_zipWith, columnPositions_length, Nat.min_self]

theorem columnTracks_sizes (rtl : Bool) (tx tw sx : Rat) (ws : List Rat) :
    (columnTracks rtl tx tw sx ws).map (·.size) = ws := by
  have : ∀ ps : List Rat, ps.length = ws.length → (List.zipWith Track.mk ps ws).map (·.size) = ws := by
    induction ws with
    | nil => intro ps _; simp
    | cons w r ih =>
      intro ps h
      cases ps with
      | nil => simp at h
      | cons p ps => simp only [List.zipWith_cons_cons, List.map_cons, ih ps (by simpa using h)]
  exact this _ (columnPositions_length ..)

theorem columns_chained (g : Grid) (ws : List Rat) (hm : ModelColumns g ws) :
    Chained g.sx (if g.rtl then g.tx + g.tw - sumR ws - g.sx * (ws.length : Rat) else g.tx + g.sx)
      (if g.rtl then g.cols.reverse else g.cols)
      (if g.rtl then g.tx + g.tw else g.tx + g.sx + sumR ws + g.sx * (ws.length : Rat)) := by
  rw [hm.1, columnTracks, columnPositions]
  cases g.rtl
  · exact posLtr_chained g.sx ws g.tx
  · exact posRtl_chained g.sx ws (g.tx + g.tw)

theorem columnsFill_model (g : Grid) (ws : List Rat) (hm : ModelColumns g ws)
    (hw : ws ≠ [] → g.tw = sumR ws + g.sx * ((ws.length : Rat) + 1)) : ColumnsFill 0 g := by
  have hlen : g.cols.length = ws.length := by rw [hm.1, columnTracks_length]
  have hne : g.cols ≠ [] → ws ≠ [] := fun h h0 => h (List.length_eq_zero_iff.mp (by rw [hlen, h0]; rfl))
  refine ⟨chained_fills _ _ _ _ _ _ (columns_chained g ws hm) fun h => ?_,
    fun h => near_of_eq (by rw [sizes_eq, hm.1, columnTracks_sizes, ← hm.1, hlen, hw (hne h)])⟩
  have := hw (hne (by cases hr : g.rtl <;> rw [hr] at h <;> simpa using h))
  cases g.rtl
  · exact ⟨rfl, by rw [this]; simp only [Bool.false_eq_true, if_false]; grind⟩
  · exact ⟨by rw [this]; simp only [if_true]; grind, rfl⟩

theorem take_length_self (l : List Rat) (n : Nat) : l.take n = l.take (l.take n).length := by
  rcases Nat.le_total n l.length with h | h
  · simp [List.length_take, Nat.min_eq_left h]
  · simp [List.take_of_length_le h]

theorem placeCell_some (rtl : Bool) (sx : Rat) (ws pos : List Rat) (ci : CellIn) (o : CellOut)
    (h : placeCell rtl sx ws pos ci = some o) :
    o.gx = ci.gx ∧ o.gx + o.cs ≤ ws.length ∧ o.cs ≤ ci.cs ∧ ∃ n, o.cs = n + 1 ∧
    o.width + ci.bpp = sumR ((ws.drop o.gx).take o.cs) + sx * (n : Rat) ∧
    pos[if rtl then o.gx + n else o.gx]? = some o.x := by
  unfold placeCell at h
  simp only at h
  have hsum : sumR (spanned ws ci.gx ci.cs) = sumR ((ws.drop ci.gx).take (spanned ws ci.gx ci.cs).length) :=
    congrArg sumR (take_length_self _ _)
  have hlen : (spanned ws ci.gx ci.cs).length ≤ ci.cs ∧
      ((spanned ws ci.gx ci.cs).length ≠ 0 → ci.gx + (spanned ws ci.gx ci.cs).length ≤ ws.length) := by
    simp only [spanned, List.length_take, List.length_drop]; omega
  generalize sumR (spanned ws ci.gx ci.cs) = sp at h hsum
  generalize (spanned ws ci.gx ci.cs).length = k at h hlen hsum
  split at h
  · cases h
  · next hne =>
    obtain ⟨n, rfl⟩ : ∃ n, k = n + 1 := ⟨k - 1, (Nat.sub_add_cancel (Nat.one_le_iff_ne_zero.mpr hne)).symm⟩
    split at h
    · next x hx =>
      cases h
      rw [Nat.add_succ_sub_one] at hx
      exact ⟨rfl, hlen.2 hne, hlen.1, n, rfl, by rw [hsum, natCast_succ_sub_one]; grind, hx⟩
    · cases h

theorem sumR_reverse (l : List Rat) : sumR l.reverse = sumR l := by
  induction l with
  | nil => rfl
  | cons a r ih => rw [List.reverse_cons, sumR_append, ih, sumR_cons, sumR_cons, sumR_nil, Rat.add_zero, Rat.add_comm]

theorem run_reverse {α : Type} (l : List α) (i k : Nat) (h : i + k ≤ l.length) :
    (l.reverse.drop (l.length - i - k)).take k = ((l.drop i).take k).reverse := by
  rw [List.drop_reverse, List.take_reverse, List.length_take, List.take_drop,
    show l.length - (l.length - i - k) = i + k by omega, Nat.min_eq_left h, Nat.add_sub_cancel]

theorem getElem?_reverse_sub {α : Type} (l : List α) (i : Nat) (h : i < l.length) :
    l.reverse[l.length - 1 - i]? = l[i]? := by
  rw [List.getElem?_reverse (by omega), show l.length - 1 - (l.length - 1 - i) = i by omega]

theorem chained_span_reverse (s y e : Rat) (l : List Track) (h : Chained s y l.reverse e) (i n : Nat) (a b : Track)
    (ha : l[i]? = some a) (hb : l[i + n]? = some b) :
    a.pos + a.size = b.pos + (sizes ((l.drop i).take (n + 1)) + s * (n : Rat)) := by
  have hlt := (List.getElem?_eq_some_iff.mp hb).1
  have := chained_span s y e _ h (l.length - 1 - (i + n)) n b a (by rw [getElem?_reverse_sub _ _ hlt]; exact hb)
    (by rw [show l.length - 1 - (i + n) + n = l.length - 1 - i by omega, getElem?_reverse_sub _ _ (by omega)]; exact ha)
  rwa [show l.length - 1 - (i + n) = l.length - i - (n + 1) by omega, run_reverse _ _ _ (by omega), sizes_eq,
    List.map_reverse, sumR_reverse, ← sizes_eq] at this

/-- One of the two edges of a cell is read off `columnPositions` by `placeCell`; the other follows from
    the run of columns in the chain. -/
theorem cell_columns (g : Grid) (ws : List Rat) (hm : ModelColumns g ws) (c : Cell) (hc : c ∈ g.cells) :
    ∃ n a b, c.cs = n + 1 ∧ g.cols[c.gx]? = some a ∧ g.cols[c.gx + n]? = some b ∧
      g.startEdge c.x c.w = g.startEdge a.pos a.size ∧ g.endEdge c.x c.w = g.endEdge b.pos b.size ∧
      c.w = sizes ((g.cols.drop c.gx).take c.cs) + g.sx * (n : Rat) := by
  obtain ⟨ci, o, hp, h1, h2, h3, h4, _⟩ := hm.2 c hc
  obtain ⟨_, hle, _, n, hn, hwd, hx⟩ := placeCell_some _ _ _ _ _ _ hp
  simp only [← h1, ← h2, ← h3, ← h4] at hle hn hwd hx
  have hlen : g.cols.length = ws.length := by rw [hm.1, columnTracks_length]
  have hsz : sizes ((g.cols.drop c.gx).take c.cs) = sumR ((ws.drop c.gx).take c.cs) := by
    rw [sizes_eq, List.map_take, List.map_drop, hm.1, columnTracks_sizes]
  have hpos : ∀ (i : Nat) (x : Rat), (columnPositions g.rtl g.tx g.tw g.sx ws)[i]? = some x →
      ∀ t, g.cols[i]? = some t → t.pos = x := by
    intro i x hi t ht
    rw [hm.1, columnTracks, List.getElem?_zipWith, hi] at ht
    split at ht
    · next heq _ => cases ht; exact (Option.some.inj heq).symm
    · cases ht
  have ha := List.getElem?_eq_getElem (show c.gx < g.cols.length by omega)
  have hb := List.getElem?_eq_getElem (show c.gx + n < g.cols.length by omega)
  have hch := columns_chained g ws hm
  unfold Grid.startEdge Grid.endEdge
  refine ⟨n, _, _, hn, ha, hb, ?_, ?_, by rw [hsz, hwd]⟩
  all_goals cases hr : g.rtl <;> rw [hr] at hx hch hpos <;> simp only [Bool.false_eq_true, if_false, if_true] at hx hch ⊢
  · exact (hpos _ _ hx _ ha).symm
  · have := chained_span_reverse _ _ _ _ hch _ n _ _ ha hb
    rw [← hn, hsz, ← hwd, hpos _ _ hx _ hb] at this
    exact this.symm
  · have := chained_span _ _ _ _ hch _ n _ _ ha hb
    rw [← hn, hsz, ← hwd, hpos _ _ hx _ ha] at this
    exact this.symm
  · exact (hpos _ _ hx _ hb).symm

theorem tracks_ordered (g : Grid) (ws : List Rat) (hm : ModelColumns g ws) (hws : ∀ w ∈ ws, 0 ≤ w)
    (hsx : 0 ≤ g.sx) (j k : Nat) (hjk : j < k) (a b : Track) (ha : g.cols[j]? = some a) (hb : g.cols[k]? = some b) :
    if g.rtl then b.pos + b.size ≤ a.pos else a.pos + a.size ≤ b.pos := by
  have hnn : ∀ t ∈ g.cols, 0 ≤ t.size := fun t ht =>
    hws _ (by rw [← columnTracks_sizes g.rtl g.tx g.tw g.sx ws, ← hm.1]; exact List.mem_map_of_mem ht)
  have hk := (List.getElem?_eq_some_iff.mp hb).1
  have hch := columns_chained g ws hm
  cases hr : g.rtl <;> rw [hr] at hch <;> simp only [Bool.false_eq_true, if_false, if_true] at hch ⊢
  · exact chained_below _ _ _ _ hch hnn hsx j k hjk a b ha hb
  · exact chained_below _ _ _ _ hch (fun t ht => hnn t (List.mem_reverse.mp ht)) hsx
      (g.cols.length - 1 - k) (g.cols.length - 1 - j) (by omega) b a
      (by rw [getElem?_reverse_sub _ _ hk]; exact hb) (by rw [getElem?_reverse_sub _ _ (by omega)]; exact ha)

theorem columns_disjoint (g : Grid) (ws : List Rat) (hm : ModelColumns g ws) (hws : ∀ w ∈ ws, 0 ≤ w) (hsx : 0 ≤ g.sx)
    (c : Cell) (hc : c ∈ g.cells) (d : Cell) (hd : d ∈ g.cells) (h : c.gx + c.cs ≤ d.gx) :
    if g.rtl then d.x + d.w ≤ c.x else c.x + c.w ≤ d.x := by
  obtain ⟨n, _, cb, hn, _, hcb, _, ce, _⟩ := cell_columns g ws hm c hc
  obtain ⟨_, da, _, _, hda, _, ds, _, _⟩ := cell_columns g ws hm d hd
  have := tracks_ordered g ws hm hws hsx (c.gx + n) d.gx (by omega) cb da hcb hda
  unfold Grid.endEdge at ce
  unfold Grid.startEdge at ds
  cases hr : g.rtl <;> simp only [hr, Bool.false_eq_true, if_false, if_true] at this ce ds ⊢
  · rw [ce, ds]; exact this
  · rw [ce, ds]; exact this

theorem resolveWith_length (v : Rat) (l : List (Option Rat)) : (resolveWith v l).length = l.length := by
  induction l with
  | nil => simp [resolveWith]
  | cons a r ih => cases a <;> simp [resolveWith, ih]

theorem fillNone_eq (v : Rat) (l : List (Option Rat)) : fillNone v l = (resolveWith v l).map some := by
  induction l with
  | nil => rfl
  | cons a r ih => cases a <;> simp only [fillNone, resolveWith, List.map_cons, ih]

theorem firstRowPass_length (sx : Rat) (first : List (Nat × Option Rat)) :
    ∀ (i : Nat) (cw : List (Option Rat)), (firstRowPass sx i first cw).length = cw.length := by
  induction first with
  | nil => intro i cw; simp [firstRowPass]
  | cons a r ih =>
    intro i cw
    obtain ⟨cs, ow⟩ := a
    cases ow with
    | none => simp [firstRowPass, ih]
    | some bw =>
      simp only [firstRowPass]
      rw [ih]
      split
      · simp only [List.length_append, List.length_take, List.length_drop, fillNone_eq, List.length_map,
          resolveWith_length]; omega
      · rfl

theorem fixedKnown_length (i : FixedIn) : (fixedKnown i).length = i.numColumns := by
  unfold fixedKnown
  rw [firstRowPass_length]
  simp [FixedIn.numColumns]; omega

def KnownNonneg (cw : List (Option Rat)) : Prop := ∀ w, some w ∈ cw → 0 ≤ w

theorem mem_resolveWith (v w : Rat) (l : List (Option Rat)) (h : w ∈ resolveWith v l) : some w ∈ l ∨ w = v := by
  induction l with
  | nil => cases h
  | cons a r ih =>
    cases a with
    | none =>
      rcases List.mem_cons.mp h with h | h
      · exact Or.inr h
      · exact (ih h).imp_left (List.mem_cons_of_mem _)
    | some a =>
      rcases List.mem_cons.mp h with h | h
      · exact Or.inl (h ▸ List.mem_cons_self)
      · exact (ih h).imp_left (List.mem_cons_of_mem _)

theorem mem_fillNone (v w : Rat) (l : List (Option Rat)) (h : some w ∈ fillNone v l) : some w ∈ l ∨ w = v := by
  rw [fillNone_eq] at h
  obtain ⟨w', hw', e⟩ := List.mem_map.mp h
  cases e; exact mem_resolveWith v w l hw'

theorem resolveWith_nonneg (v : Rat) (hv : 0 ≤ v) (l : List (Option Rat)) (h : KnownNonneg l) :
    ∀ w ∈ resolveWith v l, 0 ≤ w := fun w hw =>
  (mem_resolveWith v w l hw).elim (h w) fun e => e ▸ hv

theorem firstRowPass_nonneg (sx : Rat) (first : List (Nat × Option Rat)) :
    ∀ (i : Nat) (cw : List (Option Rat)), KnownNonneg cw → KnownNonneg (firstRowPass sx i first cw) := by
  induction first with
  | nil => intro i cw h; exact h
  | cons a r ih =>
    intro i cw h
    obtain ⟨cs, ow⟩ := a
    cases ow with
    | none => exact ih _ _ h
    | some bw =>
      simp only [firstRowPass]
      refine ih _ _ ?_
      split
      · intro w hw
        simp only [List.mem_append] at hw
        rcases hw with (hw | hw) | hw
        · exact h w (List.mem_of_mem_take hw)
        · exact (mem_fillNone _ w _ hw).elim
            (fun hw' => h w (List.mem_of_mem_drop (List.mem_of_mem_take hw'))) fun e => e ▸ maxR_ge_left 0 _
        · exact h w (List.mem_of_mem_drop hw)
      · exact h

theorem fixedDistributed_length (i : FixedIn) : (fixedDistributed i).length = i.numColumns := by
  unfold fixedDistributed; simp only; split <;> rw [resolveWith_length, fixedKnown_length]

theorem fixedDistributed_nonneg (i : FixedIn) (hcols : ∀ w, some w ∈ i.cols → 0 ≤ w) :
    ∀ w ∈ fixedDistributed i, 0 ≤ w := by
  have hk : KnownNonneg (fixedKnown i) := by
    refine firstRowPass_nonneg _ _ _ _ fun w hw => ?_
    rcases List.mem_append.mp hw with hw | hw
    · exact hcols w hw
    · cases (List.mem_replicate.mp hw).2
  unfold fixedDistributed
  simp only
  split
  · next hc =>
    refine resolveWith_nonneg _ (rat_div_nonneg _ _ ((Rat.le_iff_sub_nonneg _ _).mp hc.2) ?_) _ hk
    exact Rat.natCast_pos.mpr (Nat.pos_of_ne_zero hc.1)
  · exact resolveWith_nonneg 0 Rat.le_refl _ hk

def rowTracks (o : ROut) : List Track := o.rows.map fun r => ⟨r.1, r.2⟩

/-- "the row part of `g` (one row group starting at `y`) was computed by the model" -/
def ModelRows (g : Grid) (y : Rat) (rows : List RRow) : Prop :=
  g.groups = [⟨y, groupHeight g.sy y (rowPass g.sy y rows),
               rowTracks (rowPass g.sy y rows)⟩] ∧
  ∀ c ∈ g.cells, ∃ d ∈ (rowPass g.sy y rows).cells, c.gy = d.row ∧ c.rs = d.span ∧ c.y = d.y ∧ c.h = d.bh

theorem rowLoop_chained (sy : Rat) (rows : List RRow) : ∀ (k : Nat) (y : Rat) (pend : List Pending),
    Chained sy y (rowTracks (rowLoop sy k y pend rows)) (rowLoop sy k y pend rows).endY := by
  induction rows with
  | nil => intro k y pend; rfl
  | cons row rest ih => intro k y pend; exact ⟨rfl, ih _ _ _⟩

theorem rowPass_chained (sy y : Rat) (rows : List RRow) :
    Chained sy y (rowTracks (rowPass sy y rows)) (rowPass sy y rows).endY :=
  rowLoop_chained sy rows 0 y []

theorem maxHeight_ge (l : List Pending) : ∀ init : Rat, init ≤ maxHeight init l := by
  induction l with
  | nil => intro init; exact Rat.le_refl
  | cons p r ih => intro init; exact Rat.le_trans (maxR_ge_left _ _) (ih _)

theorem rowHeight_nonneg (y : Rat) (h : Option Rat) (ending : List Pending) : 0 ≤ rowHeight y h ending := by
  unfold rowHeight
  split
  · exact Rat.le_refl
  · cases h with
    | none => exact maxR_ge_right _ _
    | some v => exact Rat.le_trans (maxHeight_ge ending 0) (maxR_ge_right _ _)

theorem rowLoop_heights_nonneg (sy : Rat) (rows : List RRow) : ∀ (k : Nat) (y : Rat) (pend : List Pending),
    ∀ t ∈ rowTracks (rowLoop sy k y pend rows), 0 ≤ t.size := by
  induction rows with
  | nil => intro k y pend t ht; cases ht
  | cons row rest ih =>
    intro k y pend t ht
    rcases List.mem_cons.mp ht with rfl | ht
    · exact rowHeight_nonneg _ _ _
    · exact ih _ _ _ t ht

theorem finish_bottom (bottom : Rat) (p : Pending) : (finish bottom p).y + (finish bottom p).bh = bottom := by
  simp only [finish]; grind

/-- the invariant of the row loop: a cell pending from an earlier row ends at the bottom of the row `left`
    steps ahead -/
theorem rowLoop_cells (sy : Rat) (rows : List RRow) : ∀ (k : Nat) (y : Rat) (pend : List Pending),
    ∀ d ∈ (rowLoop sy k y pend rows).cells,
      (∃ p ∈ pend, d.row = p.row ∧ d.span = p.span ∧ d.y = p.y ∧
        ∃ t, (rowTracks (rowLoop sy k y pend rows))[p.left]? = some t ∧ d.y + d.bh = t.pos + t.size) ∨
      (∃ j n a b, d.row = k + j ∧ d.span = n + 1 ∧
        (rowTracks (rowLoop sy k y pend rows))[j]? = some a ∧ a.pos = d.y ∧
        (rowTracks (rowLoop sy k y pend rows))[j + n]? = some b ∧ d.y + d.bh = b.pos + b.size) := by
  induction rows with
  | nil => intro k y pend d hd; cases hd
  | cons row rest ih =>
    intro k y pend d hd
    simp only [rowLoop, rowTracks, List.map_cons] at hd ⊢
    generalize rowHeight y row.height _ = height at hd ⊢
    have IH := ih (k + 1) (y + height + sy) (List.map age (List.filter (fun x => decide (x.left ≠ 0)) (pend ++ arrivals k y row)))
    simp only [rowTracks] at IH
    generalize rowLoop sy (k + 1) (y + height + sy) _ rest = o' at hd IH ⊢
    simp only [List.mem_append, List.mem_map, List.mem_filter] at hd
    rcases hd with ⟨p, ⟨hp, hl⟩, rfl⟩ | hd
    · -- a cell ending in this row
      have hl0 : p.left = 0 := by simpa using hl
      rcases hp with hp | hp
      · exact Or.inl ⟨p, hp, rfl, rfl, rfl, ⟨y, height⟩, by rw [hl0]; rfl, finish_bottom _ _⟩
      · obtain ⟨c, hc, rfl⟩ := List.mem_map.mp hp
        exact Or.inr ⟨0, c.rs - 1, ⟨y, height⟩, ⟨y, height⟩, rfl, rfl, rfl, rfl,
          by rw [Nat.zero_add, show c.rs - 1 = 0 from hl0]; rfl, finish_bottom _ _⟩
    · -- a cell completed later
      rcases IH d hd with ⟨p', hp', h1, h2, h3, t, ht, hb⟩ | ⟨j, n, a, b, hrow, hspan, ha, hay, hb, hbb⟩
      · simp only [List.mem_map, List.mem_filter, List.mem_append] at hp'
        obtain ⟨p, ⟨hp, hl⟩, rfl⟩ := hp'
        have hidx : p.left = p.left - 1 + 1 :=
          (Nat.sub_add_cancel (Nat.one_le_iff_ne_zero.mpr (by simpa using hl))).symm
        rcases hp with hp | hp
        · exact Or.inl ⟨p, hp, h1, h2, h3, t, by rw [hidx, List.getElem?_cons_succ]; exact ht, hb⟩
        · obtain ⟨c, hc, rfl⟩ := List.mem_map.mp hp
          exact Or.inr ⟨0, c.rs - 1, ⟨y, height⟩, t, h1, h2, rfl, h3.symm,
            by rw [Nat.zero_add, show c.rs - 1 = c.rs - 1 - 1 + 1 from hidx, List.getElem?_cons_succ]; exact ht, hb⟩
      · exact Or.inr ⟨j + 1, n, a, b, by rw [hrow, Nat.add_assoc, Nat.add_comm 1 j], hspan,
          by rw [List.getElem?_cons_succ]; exact ha, hay,
          by rw [Nat.add_right_comm, List.getElem?_cons_succ]; exact hb, hbb⟩

theorem ModelRows.rows_eq {g : Grid} {y : Rat} {rows : List RRow} (hm : ModelRows g y rows) :
    g.rows = rowTracks (rowPass g.sy y rows) := by
  simp [Grid.rows, hm.1]

theorem rows_chained {g : Grid} {y : Rat} {rows : List RRow} (hm : ModelRows g y rows) :
    Chained g.sy y g.rows (rowPass g.sy y rows).endY :=
  hm.rows_eq ▸ rowPass_chained g.sy y rows

theorem rows_nonneg {g : Grid} {y : Rat} {rows : List RRow} (hm : ModelRows g y rows) : ∀ t ∈ g.rows, 0 ≤ t.size :=
  hm.rows_eq ▸ rowLoop_heights_nonneg g.sy rows 0 y []

theorem cell_rows (g : Grid) (y : Rat) (rows : List RRow) (hm : ModelRows g y rows) (c : Cell) (hc : c ∈ g.cells) :
    ∃ n a b, c.rs = n + 1 ∧ g.rows[c.gy]? = some a ∧ g.rows[c.gy + n]? = some b ∧
      c.y = a.pos ∧ c.y + c.h = b.pos + b.size ∧
      c.h = sizes ((g.rows.drop c.gy).take c.rs) + g.sy * (n : Rat) := by
  obtain ⟨d, hd, h1, h2, h3, h4⟩ := hm.2 c hc
  rcases rowLoop_cells g.sy rows 0 y [] d hd with ⟨p, hp, _⟩ | ⟨j, n, a, b, hrow, hspan, ha, hay, hb, hbb⟩
  · cases hp
  · rw [Nat.zero_add] at hrow
    rw [show rowTracks (rowLoop g.sy 0 y [] rows) = g.rows from hm.rows_eq.symm, ← hrow, ← h1] at ha hb
    have hsp := chained_span _ _ _ _ (rows_chained hm) c.gy n a b ha hb
    refine ⟨n, a, b, h2.trans hspan, ha, hb, h3.trans hay.symm, by rw [h3, h4]; exact hbb, ?_⟩
    rw [h2.trans hspan]
    grind

theorem groupRows_model (sy y : Rat) (rows : List RRow) :
    GroupRows 0 sy ⟨y, groupHeight sy y (rowPass sy y rows), rowTracks (rowPass sy y rows)⟩ := by
  have hch := rowPass_chained sy y rows
  unfold GroupRows
  simp only
  split
  · next a b ha hb =>
    obtain ⟨h1, h2⟩ := chained_ends sy _ y _ hch a b ha hb
    have hie : (rowPass sy y rows).rows.isEmpty = false := by
      cases h : (rowPass sy y rows).rows with
      | nil => rw [rowTracks, h] at ha; cases ha
      | cons _ _ => rfl
    refine ⟨near_of_eq h1, chained_spaced sy _ y _ hch, near_of_eq ?_⟩
    rw [groupHeight, hie]; simp only [Bool.false_eq_true, if_false]
    rw [← h2]; grind
  · trivial

theorem rows_disjoint (g : Grid) (y : Rat) (rows : List RRow) (hm : ModelRows g y rows) (hsy : 0 ≤ g.sy)
    (c : Cell) (hc : c ∈ g.cells) (d : Cell) (hd : d ∈ g.cells) (h : c.gy + c.rs ≤ d.gy) : c.y + c.h ≤ d.y := by
  obtain ⟨n, _, cb, hn, _, hcb, _, ce, _⟩ := cell_rows g y rows hm c hc
  obtain ⟨_, da, _, _, hda, _, ds, _, _⟩ := cell_rows g y rows hm d hd
  rw [ce, ds]
  exact chained_below g.sy _ y _ (rows_chained hm) (rows_nonneg hm) hsy (c.gy + n) d.gy (by omega) cb da hcb hda

/-- "the row groups of `g` were stacked by the model", starting one spacing below the table's content top -/
def ModelGroups (g : Grid) (spec : Option Rat) (hs : List Rat) : Prop :=
  g.groups.map (fun gr => (gr.pos, gr.size)) = (stackGroups g.sy (g.ty + g.sy) hs).1.zip hs ∧
  g.th = tableHeight spec g.ty (stackGroups g.sy (g.ty + g.sy) hs).2

theorem stack_chained (sy : Rat) (hs : List Rat) : ∀ y : Rat,
    Chained sy y (((stackGroups sy y hs).1.zip hs).map fun r => ⟨r.1, r.2⟩) (stackGroups sy y hs).2 := by
  induction hs with
  | nil => intro y; rfl
  | cons h r ih => intro y; exact ⟨rfl, ih _⟩

theorem groups_fill_model (g : Grid) (spec : Option Rat) (hs : List Rat) (hm : ModelGroups g spec hs) :
    Spaced 0 g.sy (g.groups.map fun gr => ⟨gr.pos, gr.size⟩) ∧
    (match g.groups.head?, g.groups.getLast? with
      | some a, some b => near 0 a.pos (g.ty + g.sy) ∧ leq 0 (b.pos + b.size + g.sy) (g.ty + g.th)
      | _, _ => True) := by
  obtain ⟨hg, hth⟩ := hm
  have hch := stack_chained g.sy hs (g.ty + g.sy)
  rw [← hg, List.map_map] at hch
  refine ⟨chained_spaced _ _ _ _ hch, ?_⟩
  split
  · next a b ha hb =>
    obtain ⟨h1, h2⟩ := chained_ends _ _ _ _ hch ⟨a.pos, a.size⟩ ⟨b.pos, b.size⟩
      (by rw [List.head?_map, ha]; rfl) (by rw [List.getLast?_map, hb]; rfl)
    refine ⟨near_of_eq h1, ?_⟩
    have hge : (stackGroups g.sy (g.ty + g.sy) hs).2 - g.ty ≤ g.th := by
      rw [hth]; exact maxR_ge_left _ _  -- `tableHeight` is a `prMax`, and `prMax x y` unfolds to `maxR y x`
    rw [← h2] at hge
    unfold leq; grind
  · trivial

end WR.C13
