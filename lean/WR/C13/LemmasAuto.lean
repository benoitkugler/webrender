/-
  C13 — the auto-layout model (Auto.lean).  Every step of distributeExcessWidth adds to some columns; `Adds`
  records what such a step keeps (number of columns, the sum up to the amount added, and — under a side
  condition — every single column), `Distributes` adds the rest that is handed on.
-/
import WR.C13.Auto
import WR.C13.Lemmas
namespace WR.C13

def LeAll (a b : List Rat) : Prop :=
  a.length = b.length ∧ ∀ (i : Nat) (x y : Rat), a[i]? = some x → b[i]? = some y → x ≤ y

theorem LeAll.refl (a : List Rat) : LeAll a a :=
  ⟨rfl, fun i x y hx hy => by rw [hx] at hy; cases hy; exact Rat.le_refl⟩

theorem LeAll.trans {a b c : List Rat} (h1 : LeAll a b) (h2 : LeAll b c) : LeAll a c := by
  refine ⟨h1.1.trans h2.1, fun i x z hx hz => ?_⟩
  have hi : i < b.length := by
    rw [← h1.1]
    rcases Nat.lt_or_ge i a.length with h | h
    · exact h
    · simp [List.getElem?_eq_none h] at hx
  have hb : b[i]? = some b[i] := List.getElem?_eq_getElem hi
  exact Rat.le_trans (h1.2 i x _ hx hb) (h2.2 i _ z hb hz)

theorem LeAll.cons {x y : Rat} {a b : List Rat} (h : x ≤ y) (hab : LeAll a b) : LeAll (x :: a) (y :: b) := by
  refine ⟨by simp [hab.1], fun i u v hu hv => ?_⟩
  cases i with
  | zero => simp only [List.getElem?_cons_zero, Option.some.injEq] at hu hv; rw [← hu, ← hv]; exact h
  | succ i => exact hab.2 i u v hu hv

theorem LeAll.map {α : Type} (f g : α → Rat) (l : List α) (h : ∀ x ∈ l, f x ≤ g x) :
    LeAll (l.map f) (l.map g) := by
  induction l with
  | nil => exact LeAll.refl []
  | cons a r ih => exact LeAll.cons (h a (by simp)) (ih fun x hx => h x (by simp [hx]))

/-- when `m` holds, no entry has decreased -/
structure Adds (m : Prop) (t : Rat) (ws ws' : List Rat) : Prop where
  length_eq : ws'.length = ws.length
  sum_eq : sumR ws' = sumR ws + t
  mono : m → LeAll ws ws'

theorem Adds.refl (m : Prop) (ws : List Rat) : Adds m 0 ws ws :=
  ⟨rfl, (Rat.add_zero _).symm, fun _ => LeAll.refl ws⟩

theorem Adds.trans {m₁ m₂ : Prop} {t u : Rat} {ws ws' ws'' : List Rat} (h1 : Adds m₁ t ws ws')
    (h2 : Adds m₂ u ws' ws'') : Adds (m₁ ∧ m₂) (t + u) ws ws'' :=
  ⟨h2.length_eq.trans h1.length_eq, by rw [h2.sum_eq, h1.sum_eq, Rat.add_assoc],
    fun h => (h1.mono h.1).trans (h2.mono h.2)⟩

theorem Adds.imp {m m' : Prop} {t t' : Rat} {ws ws' : List Rat} (h : Adds m t ws ws') (hm : m' → m)
    (ht : t = t') : Adds m' t' ws ws' :=
  ⟨h.length_eq, ht ▸ h.sum_eq, fun h' => h.mono (hm h')⟩

theorem bump_adds (ws : List Rat) : ∀ (i : Nat) (d : Rat), i < ws.length → Adds (0 ≤ d) d ws (bump ws i d) := by
  induction ws with
  | nil => intro i d h; simp at h
  | cons w r ih =>
    intro i d h
    cases i with
    | zero =>
      refine ⟨rfl, ?_, fun hd => LeAll.cons ?_ (LeAll.refl r)⟩
      · simp only [bump, sumR_cons]; grind
      · grind
    | succ i =>
      have := ih i d (by simpa using h)
      refine ⟨by simp [bump, this.length_eq], ?_, fun hd => LeAll.cons Rat.le_refl (this.mono hd)⟩
      simp only [bump, sumR_cons, this.sum_eq, Rat.add_assoc]

theorem bumps_adds (ps : List (Nat × Rat)) : ∀ ws : List Rat, (∀ p ∈ ps, p.1 < ws.length) →
    Adds (∀ p ∈ ps, 0 ≤ p.2) (sumR (ps.map (·.2))) ws (bumps ws ps) := by
  induction ps with
  | nil => intro ws _; exact (Adds.refl _ ws).imp (fun _ => trivial) sumR_nil.symm
  | cons p r ih =>
    intro ws h
    have hb := bump_adds ws p.1 p.2 (h p (by simp))
    have hr := ih (bump ws p.1 p.2) fun q hq => by rw [hb.length_eq]; exact h q (by simp [hq])
    exact (hb.trans hr).imp (fun hp => ⟨hp p (by simp), fun q hq => hp q (by simp [hq])⟩)
      (by rw [List.map_cons, sumR_cons])

theorem shareOut_adds (share : Rat) (cols : List Nat) : ∀ ws : List Rat, (∀ i ∈ cols, i < ws.length) →
    Adds (0 ≤ share) ((cols.length : Rat) * share) ws (shareOut ws cols share) := by
  induction cols with
  | nil => intro ws _; exact (Adds.refl _ ws).imp (fun _ => trivial) (by simp)
  | cons i r ih =>
    intro ws h
    have hb := bump_adds ws i share (h i (by simp))
    have hr := ih (bump ws i share) fun j hj => by rw [hb.length_eq]; exact h j (by simp [hj])
    refine (hb.trans hr).imp (fun hs => ⟨hs, hs⟩) ?_
    rw [List.length_cons, Rat.natCast_add]; grind

theorem sel_lt (attrs : List ColAttr) (maxs ws : List Rat) (lo hi : Nat) (p : ColAttr → Rat → Bool) :
    ∀ i ∈ sel attrs maxs ws lo hi p, i < ws.length := by
  intro i hi'
  simp only [sel, List.mem_filter] at hi'
  obtain ⟨_, h⟩ := hi'
  split at h
  · simp only [Bool.and_eq_true, decide_eq_true_eq] at h; exact h.1
  · cases h

/-- the selection looks at the widths only to guard its indices -/
theorem sel_length_congr (attrs : List ColAttr) (maxs ws ws' : List Rat) (lo hi : Nat) (p : ColAttr → Rat → Bool)
    (h : ws.length = ws'.length) : sel attrs maxs ws lo hi p = sel attrs maxs ws' lo hi p := by
  unfold sel; rw [h]

theorem sel_pct_nil (cols : List ColIn) (ws : List Rat) (lo hi : Nat) (h : ∀ c ∈ cols, ¬ c.attr.pct > 0) :
    sel (cols.map (·.attr)) (cols.map (·.max)) ws lo hi (fun a _ => decide (a.pct > 0)) = [] := by
  unfold sel
  rw [List.filter_eq_nil_iff]
  intro j _
  split
  · rename_i a m ha hm
    simp only [List.getElem?_map, Option.map_eq_some_iff] at ha
    obtain ⟨c, hc, rfl⟩ := ha
    simp [h c (List.mem_of_getElem? hc)]
  · simp

def Distributes (m : Prop) (e : Rat) (ws : List Rat) (r : Rat × List Rat) : Prop :=
  0 ≤ r.1 ∧ Adds m (e - r.1) ws r.2

theorem Distributes.imp {m m' : Prop} {e : Rat} {ws : List Rat} {r : Rat × List Rat} (h : Distributes m e ws r)
    (hm : m' → m) : Distributes m' e ws r :=
  ⟨h.1, h.2.imp hm rfl⟩

/-- A group whose rest `t.1` is compared with 0: when nothing is left the widths `t.2` are final,
    otherwise `r` is what the following groups make of `t`. -/
theorem Distributes.step {m : Prop} {e : Rat} {ws : List Rat} {t r : Rat × List Rat}
    (ht : Distributes m e ws (maxR 0 t.1, t.2))
    (hr : ¬ t.1 ≤ 0 → t.2.length = ws.length → Distributes m t.1 t.2 r) :
    Distributes m e ws (if t.1 ≤ 0 then (0, t.2) else r) := by
  split
  · next h => rwa [maxR_zero_of_nonpos h] at ht
  · next h =>
    have hr := hr h ht.2.length_eq
    rw [maxR_zero_of_nonneg (Rat.le_of_lt (Rat.not_le.mp h))] at ht
    exact ⟨hr.1, (ht.2.trans hr.2).imp (fun hm => ⟨hm, hm⟩) (by grind)⟩

theorem sumR_map_scale (l : List Rat) (s e : Rat) : sumR (l.map fun d => d / s * e) = sumR l / s * e := by
  induction l with
  | nil => simp [sumR]; grind
  | cons a r ih => simp only [List.map_cons, sumR_cons, ih]; grind

/-- the common end of groups 1, 3 and 4 -/
theorem spread_distributes (e : Rat) (ws : List Rat) (cols : List Nat) (diffs : List Rat) (he : 0 ≤ e)
    (hc : ∀ i ∈ cols, i < ws.length) (hl : diffs.length ≤ cols.length) :
    Distributes (∀ d ∈ diffs, 0 ≤ d) e ws
      (maxR 0 (e - sumR diffs),
        bumps ws (cols.zip (if sumR diffs > e then diffs.map (fun d => d / sumR diffs * e) else diffs))) := by
  have key : ∀ ds : List Rat, ds.length ≤ cols.length →
      Adds (∀ d ∈ ds, 0 ≤ d) (sumR ds) ws (bumps ws (cols.zip ds)) := fun ds hds =>
    (bumps_adds (cols.zip ds) ws fun p hp => hc _ (List.of_mem_zip hp).1).imp
      (fun h p hp => h _ (List.of_mem_zip hp).2) (by rw [List.map_snd_zip hds])
  split
  · next hgt =>
    have hs : 0 < sumR diffs := Rat.not_le.mp fun h => Rat.not_le.mpr hgt (Rat.le_trans h he)
    rw [maxR_zero_of_nonpos (by grind)]
    refine ⟨Rat.le_refl, (key _ (by simpa using hl)).imp (fun h d hd => ?_) ?_⟩
    · obtain ⟨d', hd', rfl⟩ := List.mem_map.mp hd
      exact Rat.mul_nonneg (rat_div_nonneg _ _ (h d' hd') hs) he
    · rw [sumR_map_scale]; grind
  · next hle =>
    have h0 : 0 ≤ e - sumR diffs := (Rat.le_iff_sub_nonneg _ _).mp (Rat.not_lt.mp hle)
    rw [maxR_zero_of_nonneg h0]
    exact ⟨h0, (key diffs hl).imp id (by grind)⟩

theorem zipWith_maxR_nonneg (maxs cur : List Rat) : ∀ d ∈ List.zipWith (fun m c => maxR 0 (m - c)) maxs cur, 0 ≤ d := by
  intro d hd
  simp only [List.mem_iff_getElem?, List.getElem?_zipWith] at hd
  obtain ⟨i, hi⟩ := hd
  split at hi
  · cases hi; exact maxR_ge_left 0 _
  · cases hi

theorem Distributes.same (m : Prop) {e : Rat} (he : 0 ≤ e) (ws : List Rat) : Distributes m e ws (e, ws) :=
  ⟨he, (Adds.refl m ws).imp id Rat.sub_self.symm⟩

/-- groups 1 and 3 never decrease a column -/
theorem topUp_distributes (e : Rat) (ws maxs : List Rat) (cols : List Nat) (he : 0 ≤ e)
    (hc : ∀ i ∈ cols, i < ws.length) :
    Distributes True e ws (maxR 0 (topUp e ws maxs cols).1, (topUp e ws maxs cols).2) := by
  unfold topUp
  split
  · rw [maxR_zero_of_nonneg he]; exact Distributes.same _ he ws
  · refine (spread_distributes e ws cols _ he hc ?_).imp fun _ => zipWith_maxR_nonneg _ _
    rw [List.length_zipWith]
    exact Nat.le_trans (Nat.min_le_right _ _) (List.length_filterMap_le _ _)

/-- the percentage group may decrease columns: nothing is claimed about single columns unless it is empty -/
theorem pctGroup_distributes (attrs : List ColAttr) (e : Rat) (ws : List Rat) (cols : List Nat) (he : 0 ≤ e)
    (hc : ∀ i ∈ cols, i < ws.length) :
    Distributes (cols = []) e ws (maxR 0 (pctGroup attrs e ws cols).1, (pctGroup attrs e ws cols).2) := by
  unfold pctGroup
  split
  · rw [maxR_zero_of_nonneg he]; exact Distributes.same _ he ws
  · next hne =>
    refine (spread_distributes e ws cols _ he hc ?_).imp fun h => absurd (List.isEmpty_iff.mpr h) hne
    rw [List.length_zipWith]; exact Nat.min_le_left _ _

theorem cast_len_mul_div (n : Nat) (e : Rat) (h : n ≠ 0) : (n : Rat) * (e / (n : Rat)) = e := by
  have : (n : Rat) ≠ 0 := by exact_mod_cast h
  grind

/-- groups 2 and 5: a non-empty selection shares the whole rest equally, an empty one hands it on -/
theorem Distributes.share {m : Prop} {e : Rat} {ws : List Rat} {cols : List Nat} {r : Rat × List Rat} (he : 0 ≤ e)
    (hc : ∀ i ∈ cols, i < ws.length) (hr : Distributes m e ws r) :
    Distributes m e ws (if (!cols.isEmpty) = true then (0, shareOut ws cols (e / (cols.length : Rat))) else r) := by
  split
  · next hne =>
    have hn : cols.length ≠ 0 := by cases cols <;> simp at hne ⊢
    have hpos : (0 : Rat) < (cols.length : Rat) := Rat.natCast_pos.mpr (Nat.pos_of_ne_zero hn)
    exact ⟨Rat.le_refl, (shareOut_adds _ cols ws hc).imp (fun _ => rat_div_nonneg _ _ he hpos)
      (by rw [cast_len_mul_div _ _ hn]; grind)⟩
  · exact hr

/-- without a percentage column in the slice no column decreases: group 4 is the only one that subtracts -/
theorem distribute_spec (attrs : List ColAttr) (maxs : List Rat) (lo hi : Nat) (excess : Rat) (ws : List Rat)
    (he : 0 ≤ excess) :
    Distributes (sel attrs maxs ws lo hi (fun a _ => decide (a.pct > 0)) = []) excess ws
      (distribute attrs maxs lo hi excess ws) := by
  have pos : ∀ {x : Rat}, ¬ x ≤ 0 → 0 ≤ x := fun h => Rat.le_of_lt (Rat.not_le.mp h)
  unfold distribute
  -- the five groups in turn; group 4 selects by the number of widths only, which no group changes
  refine Distributes.step ((topUp_distributes excess ws maxs _ he (sel_lt _ _ _ _ _ _)).imp fun _ => trivial) fun h1 l1 => ?_
  refine Distributes.share (pos h1) (sel_lt _ _ _ _ _ _) ?_
  refine Distributes.step ((topUp_distributes _ _ maxs _ (pos h1) (sel_lt _ _ _ _ _ _)).imp fun _ => trivial) fun h3 l3 => ?_
  refine Distributes.step ((pctGroup_distributes attrs _ _ _ (pos h3) (sel_lt _ _ _ _ _ _)).imp fun hp => ?_) fun h4 _ => ?_
  · rw [sel_length_congr attrs maxs _ ws lo hi _ (l3.trans l1)]; exact hp
  · exact Distributes.share (pos h4) (sel_lt _ _ _ _ _ _) (Distributes.same _ (pos h4) _)

theorem distribute_conserves (attrs : List ColAttr) (maxs : List Rat) (lo hi : Nat) (excess : Rat) (ws : List Rat)
    (he : 0 ≤ excess) :
    0 ≤ (distribute attrs maxs lo hi excess ws).1 ∧
    (distribute attrs maxs lo hi excess ws).2.length = ws.length ∧
    sumR (distribute attrs maxs lo hi excess ws).2 = sumR ws + excess - (distribute attrs maxs lo hi excess ws).1 := by
  have h := distribute_spec attrs maxs lo hi excess ws he
  exact ⟨h.1, h.2.length_eq, by rw [h.2.sum_eq]; grind⟩

theorem breakRules_adds (cols : List ColIn) (ws : List Rat) (r : Rat) (hl : ws.length = cols.length)
    (hcell : ∃ c ∈ cols, c.attr.hasCell = true) : Adds (0 ≤ r) r ws (breakRules cols ws r) := by
  unfold breakRules
  simp only
  generalize hidx : (List.range cols.length).filter _ = idx
  have hlt : ∀ j ∈ idx, j < ws.length := by
    intro j hj; rw [← hidx] at hj
    rw [hl]; exact List.mem_range.mp (List.mem_filter.mp hj).1
  have hne : idx.length ≠ 0 := by
    obtain ⟨c, hc, hcc⟩ := hcell
    obtain ⟨j, hjl, rfl⟩ := List.getElem_of_mem hc
    have : j ∈ idx := by
      rw [← hidx]; exact List.mem_filter.mpr ⟨List.mem_range.mpr hjl, by rw [List.getElem?_eq_getElem hjl]; exact hcc⟩
    exact Nat.ne_of_gt (List.length_pos_of_mem this)
  have hpos : (0 : Rat) < (idx.length : Rat) := Rat.natCast_pos.mpr (Nat.pos_of_ne_zero hne)
  exact (shareOut_adds _ idx ws hlt).imp (fun hr => rat_div_nonneg _ _ hr hpos) (cast_len_mul_div _ _ hne)

def gk (a : Rat) (c : ColIn) : Nat → Rat
  | 0 => (guessesOf a c).1
  | 1 => (guessesOf a c).2.1
  | 2 => (guessesOf a c).2.2.1
  | _ => (guessesOf a c).2.2.2

theorem guess_eq_map (a : Rat) (cols : List ColIn) (k : Nat) : guess a cols k = cols.map fun c => gk a c k := by
  match k with
  | 0 => rfl
  | 1 => rfl
  | 2 => rfl
  | n + 3 => rfl

theorem guess_length (a : Rat) (cols : List ColIn) (k : Nat) : (guess a cols k).length = cols.length := by
  rw [guess_eq_map, List.length_map]

theorem guessesOf_fst (a : Rat) (c : ColIn) : (guessesOf a c).1 = c.min := by
  unfold guessesOf; split
  · rfl
  · split <;> rfl

theorem guess_zero (a : Rat) (cols : List ColIn) : guess a cols 0 = cols.map (·.min) :=
  List.map_congr_left fun c _ => guessesOf_fst a c

theorem guessesOf_chain (a : Rat) (c : ColIn) (hmm : c.min ≤ c.max) :
    (guessesOf a c).1 ≤ (guessesOf a c).2.1 ∧
    (guessesOf a c).2.1 ≤ (guessesOf a c).2.2.1 ∧ (guessesOf a c).2.2.1 ≤ (guessesOf a c).2.2.2 := by
  unfold guessesOf
  split
  · exact ⟨maxR_ge_left _ _, Rat.le_refl, Rat.le_refl⟩  -- `prMax x y` unfolds to `maxR y x`
  · split
    · exact ⟨Rat.le_refl, hmm, Rat.le_refl⟩
    · exact ⟨Rat.le_refl, Rat.le_refl, hmm⟩

theorem gk_succ (a : Rat) (c : ColIn) (hmm : c.min ≤ c.max) : ∀ k, gk a c k ≤ gk a c (k + 1)
  | 0 => (guessesOf_chain a c hmm).1
  | 1 => (guessesOf_chain a c hmm).2.1
  | 2 => (guessesOf_chain a c hmm).2.2
  | _ + 3 => Rat.le_refl

theorem gk_mono (a : Rat) (c : ColIn) (hmm : c.min ≤ c.max) (k k' : Nat) (h : k ≤ k') : gk a c k ≤ gk a c k' := by
  induction h with
  | refl => exact Rat.le_refl
  | step _ ih => exact Rat.le_trans ih (gk_succ a c hmm _)

theorem min_le_gk (a : Rat) (c : ColIn) (hmm : c.min ≤ c.max) (k : Nat) : c.min ≤ gk a c k :=
  guessesOf_fst a c ▸ gk_mono a c hmm 0 k (Nat.zero_le _)

theorem autoWidth_ge_min (i : AutoIn) (hmm : i.tableMin ≤ i.tableMax) : i.tableMin ≤ autoWidth i := by
  unfold autoWidth
  split
  · split
    · exact Rat.le_refl
    · split
      · grind
      · exact hmm
  · split
    · exact Rat.le_refl
    · grind

theorem lowerFrom_le (a : Rat) (cols : List ColIn) : ∀ fuel k cur, sumR (guess a cols cur) ≤ a →
    sumR (guess a cols (lowerFrom a cols fuel k cur)) ≤ a
  | 0, _, _, h => h
  | fuel + 1, k, cur, h => by
    simp only [lowerFrom]; split
    · next hk => exact lowerFrom_le a cols fuel (k + 1) k hk
    · exact h

theorem upperFrom_ge (a : Rat) (cols : List ColIn) : ∀ fuel k cur, a ≤ sumR (guess a cols cur) →
    a ≤ sumR (guess a cols (upperFrom a cols fuel k cur))
  | 0, _, _, h => h
  | fuel + 1, k, cur, h => by
    simp only [upperFrom]; split
    · next hk => exact upperFrom_ge a cols fuel (k - 1) k hk
    · exact h

theorem sumR_map_le {α : Type} (f g : α → Rat) (l : List α) (h : ∀ x ∈ l, f x ≤ g x) :
    sumR (l.map f) ≤ sumR (l.map g) := by
  induction l with
  | nil => exact Rat.le_refl
  | cons a r ih =>
    have h1 := h a (by simp)
    have h2 := ih fun x hx => h x (by simp [hx])
    simp only [List.map_cons, sumR_cons]; grind

theorem sumR_map_interp {α : Type} (f g : α → Rat) (q : Rat) (l : List α) :
    sumR (l.map fun x => f x + (g x - f x) * q) = sumR (l.map f) + sumR (l.map fun x => g x - f x) * q := by
  induction l with
  | nil => simp [sumR]; grind
  | cons a r ih => simp only [List.map_cons, sumR_cons, ih]; grind

theorem sumR_map_sub {α : Type} (f g : α → Rat) (l : List α) :
    sumR (l.map fun x => g x - f x) = sumR (l.map g) - sumR (l.map f) := by
  induction l with
  | nil => simp [sumR]; grind
  | cons a r ih => simp only [List.map_cons, sumR_cons, ih]; grind

theorem interp_sum (sl su a s : Rat) (hs : s = su - sl) (hl : sl ≤ a) (hu : a ≤ su) :
    sl + s * (if s ≠ 0 then (a - sl) / s else 0) = a := by
  split
  · grind
  · grind

/-- a column whose two guesses are ordered like the sums of the guesses does not go below its lower guess -/
theorem interp_ge (l u sl su t : Rat) (h : l ≤ u ∧ sl ≤ su ∨ u ≤ l ∧ su ≤ sl) (ht : 0 ≤ t) :
    l ≤ l + (u - l) * (if su - sl ≠ 0 then t / (su - sl) else 0) := by
  split
  · next hs =>
    rcases h with ⟨hp, h⟩ | ⟨hp, h⟩
    · have := Rat.mul_nonneg (show 0 ≤ u - l by grind) (rat_div_nonneg t (su - sl) ht (by grind))
      grind
    · have := Rat.mul_nonneg (show 0 ≤ l - u by grind) (rat_div_nonneg t (-(su - sl)) ht (by grind))
      grind
  · grind

/-- every column keeps its min-content width only when the guesses are interpolated or, the excess being
    distributed, no column has a percentage -/
theorem autoLayout_spec (i : AutoIn) (hne : i.cols ≠ [])
    (hmin : i.spacing + sumR (i.cols.map (·.min)) ≤ i.tableMin) (hmm : i.tableMin ≤ i.tableMax)
    (hcell : ∃ c ∈ i.cols, c.attr.hasCell = true) :
    sumR (autoLayout i).2 + i.spacing = (autoLayout i).1 ∧ (autoLayout i).2.length = i.cols.length ∧
    i.tableMin ≤ (autoLayout i).1 ∧ (autoLayout i).1 ≤ autoWidth i ∧
    ((∀ c ∈ i.cols, c.min ≤ c.max) →
      (autoWidth i - i.spacing ≤ sumR (guess (autoWidth i - i.spacing) i.cols 3) ∨ ∀ c ∈ i.cols, ¬ c.attr.pct > 0) →
      LeAll (i.cols.map (·.min)) (autoLayout i).2) := by
  have hw := autoWidth_ge_min i hmm
  have hemp : i.cols.isEmpty = false := by cases h : i.cols <;> simp_all
  generalize hr : autoLayout i = r
  unfold autoLayout at hr
  simp only [hemp, Bool.false_eq_true, if_false] at hr
  generalize autoWidth i = w0 at hw hr ⊢
  generalize hA : w0 - i.spacing = a at hr ⊢
  have h0 : sumR (guess a i.cols 0) ≤ a := by rw [guess_zero]; grind
  -- the widths got `t` of the `a - s` to be placed, `rest` is taken off the table width
  have arith : ∀ s t rest w x : Rat, t + rest = a - s → w + rest = w0 → x = s + t →
      x + i.spacing = w ∧ (0 ≤ rest → w ≤ w0) := by grind
  have hmins : ∀ k, (∀ c ∈ i.cols, c.min ≤ c.max) → LeAll (i.cols.map (·.min)) (guess a i.cols k) := fun k hcm => by
    rw [guess_eq_map]; exact LeAll.map _ _ _ fun c hc => min_le_gk a c (hcm c hc) k
  by_cases h3 : a ≤ sumR (guess a i.cols 3)
  · rw [if_pos h3] at hr
    have hlo := lowerFrom_le a i.cols 4 0 0 h0
    have hup := upperFrom_ge a i.cols 4 3 3 h3
    change sumR (guess a i.cols (lowerIdx a i.cols)) ≤ a at hlo
    change a ≤ sumR (guess a i.cols (upperIdx a i.cols)) at hup
    generalize lowerIdx a i.cols = lo at hlo hr
    generalize upperIdx a i.cols = up at hup hr
    have hsum : ∀ x : Rat, x = a → x + i.spacing = w0 := fun x hx => by rw [hx, ← hA]; exact Rat.sub_add_cancel
    split at hr
    · next heq =>
      subst hr
      rw [← heq] at hlo
      exact ⟨hsum _ (Rat.le_antisymm hlo hup), guess_length .., hw, Rat.le_refl, fun hcm _ => hmins _ hcm⟩
    · simp only [guess_eq_map, List.zipWith_map, List.zipWith_self] at hlo hup hr
      subst hr
      refine ⟨hsum _ ?_, List.length_map .., hw, Rat.le_refl, fun hcm _ => LeAll.map _ _ _ fun c hc => ?_⟩
      · rw [sumR_map_interp]
        exact interp_sum _ _ a _ (sumR_map_sub ..) hlo hup
      · rw [sumR_map_sub]
        refine Rat.le_trans (min_le_gk a c (hcm c hc) lo) (interp_ge _ _ _ _ _ ?_ ((Rat.le_iff_sub_nonneg _ _).mp hlo))
        rcases Nat.le_total lo up with hle | hle
        · exact Or.inl ⟨gk_mono a c (hcm c hc) _ _ hle, sumR_map_le _ _ _ fun c' hc' => gk_mono a c' (hcm c' hc') _ _ hle⟩
        · exact Or.inr ⟨gk_mono a c (hcm c hc) _ _ hle, sumR_map_le _ _ _ fun c' hc' => gk_mono a c' (hcm c' hc') _ _ hle⟩
  · rw [if_neg h3] at hr
    have dc := distribute_spec (i.cols.map (·.attr)) (i.cols.map (·.max)) 0 i.cols.length _ (guess a i.cols 3)
      ((Rat.le_iff_sub_nonneg _ _).mp (Rat.le_of_lt (Rat.not_le.mp h3)))
    generalize distribute (i.cols.map (·.attr)) (i.cols.map (·.max)) 0 i.cols.length _ (guess a i.cols 3) = d at dc hr
    obtain ⟨hd0, hd⟩ := dc
    -- the common ending of the three branches after the distribution
    have fin : ∀ (t rest w : Rat) (ws' : List Rat) (m : Prop), t + rest = a - sumR (guess a i.cols 3) → w + rest = w0 →
        0 ≤ rest → i.tableMin ≤ w → m →
        Adds (sel (i.cols.map (·.attr)) (i.cols.map (·.max)) (guess a i.cols 3) 0 i.cols.length
          (fun a _ => decide (a.pct > 0)) = [] ∧ m) t (guess a i.cols 3) ws' →
        sumR ws' + i.spacing = w ∧ ws'.length = i.cols.length ∧ i.tableMin ≤ w ∧ w ≤ w0 ∧
        ((∀ c ∈ i.cols, c.min ≤ c.max) → (a ≤ sumR (guess a i.cols 3) ∨ ∀ c ∈ i.cols, ¬ c.attr.pct > 0) →
          LeAll (i.cols.map (·.min)) ws') := by
      intro t rest w ws' m ht hw' h0 hmin' hm' h
      have := arith _ t rest w _ ht hw' h.sum_eq
      exact ⟨this.1, h.length_eq.trans (guess_length ..), hmin', this.2 h0, fun hcm hB =>
        (hmins 3 hcm).trans (h.mono ⟨sel_pct_nil i.cols _ 0 _ (hB.resolve_left h3), hm'⟩)⟩
    split at hr
    · split at hr
      · next hlt =>
        subst hr
        exact fin _ d.1 _ d.2 True Rat.sub_add_cancel Rat.sub_add_cancel hd0 (Rat.le_of_lt hlt) trivial (hd.imp And.left rfl)
      · subst hr
        exact fin _ 0 w0 _ (0 ≤ d.1) (by rw [Rat.add_zero]; exact Rat.sub_add_cancel) (Rat.add_zero _) Rat.le_refl hw hd0
          (hd.trans (breakRules_adds i.cols d.2 d.1 (hd.length_eq.trans (guess_length ..)) hcell))
    · next hz =>
      subst hr
      have h0 : d.1 = 0 := Classical.not_not.mp hz
      exact fin _ d.1 w0 d.2 True Rat.sub_add_cancel (by rw [h0]; exact Rat.add_zero _) hd0 hw trivial (hd.imp And.left rfl)

theorem autoLeftover_zero_width (i : AutoIn) (h : autoLeftover i = 0) : (autoLayout i).1 = autoWidth i := by
  unfold autoLeftover at h
  unfold autoLayout
  simp only at h ⊢
  by_cases he : i.cols.isEmpty = true
  · rw [if_pos he]
  · rw [if_neg he] at h ⊢
    by_cases h3 : autoWidth i - i.spacing ≤ sumR (guess (autoWidth i - i.spacing) i.cols 3)
    · rw [if_pos h3]; split <;> rfl
    · rw [if_neg h3] at h ⊢
      rw [h, if_neg (not_not_intro rfl)]

theorem spec_le_autoWidth (i : AutoIn) (w : Rat) (h : i.width = some w) : w ≤ autoWidth i := by
  unfold autoWidth; rw [h]; simp only; split
  · rename_i hlt; exact Rat.le_of_lt hlt
  · exact Rat.le_refl

end WR.C13
