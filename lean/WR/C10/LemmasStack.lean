/-
  C10 — the stacking theorem for trees without collapsing-through boxes: the model's vertical pass
  satisfies every statement of `stackViols` (CSS 2.1 §8.3.1, §10.6.3).
-/
import WR.C10.Lemmas
namespace WR.C10

theorem collapseSpec_nil : collapseSpec [] = 0 := by
  simp only [collapseSpec, maxPos, minNeg, List.foldl_nil]; grind

theorem collapseMargin_nil : collapseMargin [] = 0 := by
  rw [collapseMargin_eq_spec, collapseSpec_nil]

theorem collapseMargin_single (m : Rat) : collapseMargin [m] = m := by
  simp only [collapseMargin, List.foldl_cons, List.foldl_nil, collapseStep]
  split
  · grind
  · split <;> grind

theorem expectEq_of_eq {rule : String} {idx : Nat} {a b : Rat} {what : String} (h : a = b) :
    expectEq rule idx a b what = [] := by
  simp [expectEq, h]

theorem beq_auto_eq (h : MF) : (h == MF.auto) = h.isAuto := by cases h <;> rfl

theorem thru_node_none {v : VBox} {c : VTree} {cs : List VTree} (h : thruList (c :: cs) = none) :
    thru (.mk v (c :: cs)) = none := by
  simp only [thru, h]
  split
  · rfl
  · split <;> rfl

theorem topGroup_childless (v : VBox) : topGroup (.mk v []) = [v.mt] := by
  simp only [topGroup, topList]; split <;> rfl

theorem botGroup_childless (v : VBox) : botGroup (.mk v []) = [v.mb] := by
  simp only [botGroup, botList]; split <;> rfl

theorem topGroup_node {v : VBox} {c : VTree} (cs : List VTree) (h : thru c = none) :
    topGroup (.mk v (c :: cs)) = v.mt :: if v.topBarrier || v.lines != 0 then [] else topGroup c := by
  simp only [topGroup, topList, h]

theorem stepChild_solid {parent : VBox} {c : VTree} (prev : Option VTree) (hthru : thru c = none)
    (htop : c.v.top = match prev with
      | none => if parent.topBarrier then parent.contentTop + collapseSpec (topGroup c) else parent.top
      | some p => p.v.bottom + collapseSpec (botGroup p ++ topGroup c)) :
    stepChild parent { prev := prev, pending := [], nested := false, viols := [] } c =
      { prev := some c, pending := [], nested := false, viols := [] } := by
  cases prev with
  | some p => simp only [stepChild, hthru, List.append_nil, expectEq_of_eq htop]
  | none =>
    by_cases hb : parent.topBarrier = true
    · simp only [hb, if_true] at htop
      simp only [stepChild, hthru, hb, if_true, List.nil_append, expectEq_of_eq htop]
    · simp only [hb, Bool.false_eq_true, if_false] at htop
      simp only [stepChild, hthru, hb, Bool.false_eq_true, if_false, List.nil_append, expectEq_of_eq htop]

theorem stackViols_childless {v : VBox}
    (hh : v.h = clampH (match v.height with
        | .val x => x
        | .auto => if v.lines != 0 then (v.lines : Rat) * v.lineH else 0)
      v.minH v.maxH) :
    stackViols (.mk v []) = [] := by
  show ([] ++ heightCheck v _ ⟨none, [], false, []⟩) ++ [] = []
  simp only [heightCheck, List.nil_append, List.append_nil]
  cases hv : v.height <;> simp only [hv] at hh ⊢ <;> apply expectEq_of_eq <;> rw [hh]
  congr 1
  simp only [collapseSpec_nil]
  split
  · grind
  · split <;> grind

theorem stackViols_node {v : VBox} {c last : VTree} {cs : List VTree} {w : Walk} (hthru : thru c = none)
    (htop : c.v.top = if v.topBarrier then v.contentTop + collapseSpec (topGroup c) else v.top)
    (hw : walkChildren v { prev := some c, pending := [], nested := false, viols := [] } cs = w)
    (hwv : w.viols = []) (hwp : w.pending = []) (hwl : w.prev = some last)
    (hc : stackViols c = []) (hcs : stackViolsList cs = [])
    (hh : v.h = clampH (match v.height with
        | .val x => x
        | .auto => last.v.bottom + (if v.botBarrier then collapseSpec (botGroup last) else 0) - v.contentTop)
      v.minH v.maxH) :
    stackViols (.mk v (c :: cs)) = [] := by
  have hs : stepChild v Walk.start c = _ := stepChild_solid none hthru htop
  simp only [stackViols, walkChildren, hs, hw, hwv, heightCheck, hwl, hwp,
    stackViolsList, hc, hcs, List.append_nil, List.nil_append]
  cases hv : v.height <;> simp only [hv] at hh ⊢ <;> exact expectEq_of_eq hh

/-- the second half of `vFinish`: `Y` where the content ends, `A` the margins trailing it -/
def vClose (r : RStyle) (y0 : Rat) (adjIn p : List Rat) (Y : Rat) (A : List Rat) (through : Bool)
    (kids : List LTree) : VRes :=
  let posY := if r.cwc then y0 + collapseMargin p - r.mt else y0 + collapseMargin (adjIn ++ [r.mt]) - r.mt
  let ya : Rat × List Rat :=
    if r.bb != 0 || r.pb != 0 || r.isRoot then (Y + collapseMargin A, ([] : List Rat)) else (Y, A)
  let h0 := match r.height with
    | .auto => ya.1 - (posY + r.mt + r.pt + r.bt)
    | .val v => v
  { tree := .mk { x := r.x, y := posY, w := r.width, h := clampH h0 r.minH r.maxH, mt := r.mt, mr := r.mr,
                  mb := r.mb, ml := r.ml, pt := r.pt, pr := r.pr, pb := r.pb, pl := r.pl, bt := r.bt,
                  br := r.br, bb := r.bb, bl := r.bl } kids,
    adj := ya.2, through := through, pOut := p }

section
variable (r : RStyle) (y0 : Rat) (adjIn p : List Rat) (Y : Rat) (A : List Rat) (t : Bool) (l : VLoop)
  (kids : List LTree)

theorem vFinish_leaf (hs : r.emptyThrough = false) :
    vFinish r y0 adjIn true l kids = vClose r y0 adjIn l.p (l.y + collapseMargin l.adj) [] false kids := by
  simp only [vFinish, hs, if_true, Bool.false_eq_true, if_false]; rfl

theorem vFinish_inner :
    vFinish r y0 adjIn false l kids =
      vClose r y0 adjIn l.p l.y (if r.height.isAuto then l.adj else []) false kids := by
  unfold vFinish vClose; cases r.height.isAuto <;> rfl

theorem vClose_top :
    (vClose r y0 adjIn p Y A t kids).tree.box.borderTop =
      y0 + collapseMargin (if r.cwc then p else adjIn ++ [r.mt]) := by
  simp only [vClose, LTree.box, LBox.borderTop]; split <;> grind

theorem vClose_h :
    (vClose r y0 adjIn p Y A t kids).tree.box.h =
      clampH (match r.height with
        | .val x => x
        | .auto => Y + (if r.bb != 0 || r.pb != 0 || r.isRoot then collapseMargin A else 0) -
            ((vClose r y0 adjIn p Y A t kids).tree.box.borderTop + r.bt + r.pt)) r.minH r.maxH := by
  simp only [vClose, LTree.box, LBox.borderTop]
  cases r.height with
  | val x => rfl
  | auto => simp only; congr 1; split <;> grind

theorem vClose_adj :
    (vClose r y0 adjIn p Y A t kids).adj = if r.bb != 0 || r.pb != 0 || r.isRoot then [] else A := by
  simp only [vClose]; split <;> rfl

theorem vStart_p : (vStart r y0 adjIn).p = adjIn ++ [r.mt] := by
  simp only [vStart]; split <;> rfl

theorem vStart_edge (g : List Rat) :
    (vStart r y0 adjIn).y + collapseMargin ((vStart r y0 adjIn).adj ++ g) =
      if r.cwc then y0 + collapseMargin (adjIn ++ [r.mt] ++ g)
      else y0 + collapseMargin (adjIn ++ [r.mt]) + r.bt + r.pt + collapseMargin g := by
  simp only [vStart]
  split
  · rfl
  · simp only [List.nil_append]; grind

theorem vStart_edge_nil :
    (vStart r y0 adjIn).y + collapseMargin (vStart r y0 adjIn).adj =
      y0 + collapseMargin (adjIn ++ [r.mt]) + r.bt + r.pt := by
  have h := vStart_edge r y0 adjIn []
  rw [List.append_nil, List.append_nil, collapseMargin_nil] at h
  rw [h]
  split
  · next hc => simp [RStyle.cwc] at hc; grind
  · grind

end

/-- loop state after a child that did not collapse through -/
def nextSt (st : VLoop) (rc : VRes) : VLoop :=
  { y := rc.tree.box.borderBottom, adj := rc.adj ++ [rc.tree.box.mb], aliased := false,
    p := if st.aliased then rc.pOut else st.p }

theorem vlist_cons {st : VLoop} {c : RBox} (cs : List RBox) (h : (vbox st.y st.adj c).through = false) :
    vlist st (c :: cs) =
      ((vlist (nextSt st (vbox st.y st.adj c)) cs).1,
       (vbox st.y st.adj c).tree :: (vlist (nextSt st (vbox st.y st.adj c)) cs).2) := by
  rw [vlist]; simp only [h]; rfl

theorem vtree_v_mb (R : RBox) (t : LTree) : (vtree R t).v.mb = t.box.mb := by
  cases R; cases t; rfl

theorem vtree_v_bottom (R : RBox) (t : LTree) : (vtree R t).v.bottom = t.box.borderBottom := by
  cases R; cases t
  simp only [vtree, VTree.v, LTree.box, VBox.bottom, LBox.borderBottom]
  grind

theorem nextSt_bottom {c : RBox} {rc : VRes} {Tc : VTree} (st : VLoop) (hTc : vtree c rc.tree = Tc) :
    (nextSt st rc).y = Tc.v.bottom := by
  rw [← hTc, vtree_v_bottom]; rfl

theorem nextSt_adj {c : RBox} {rc : VRes} {Tc : VTree} (st : VLoop) (hTc : vtree c rc.tree = Tc)
    (h5 : rc.adj ++ [Tc.v.mb] = botGroup Tc) : (nextSt st rc).adj = botGroup Tc := by
  rw [← h5, ← hTc, vtree_v_mb]; rfl

structure InvAt (y0 : Rat) (adjIn : List Rat) (F : VRes) (T : VTree) : Prop where
  notThrough : F.through = false
  thru : thru T = none
  pOut : F.pOut = adjIn ++ topGroup T
  top : T.v.top = y0 + collapseMargin (adjIn ++ topGroup T)
  bot : F.adj ++ [T.v.mb] = botGroup T
  viols : stackViols T = []

/-- `F` and `T` are variables tied by equations so that a user can name the layout and the judged
    tree of a child without `generalize … at *` -/
def Inv (y0 : Rat) (adjIn : List Rat) (R : RBox) : Prop :=
  ∀ F T, vbox y0 adjIn R = F → vtree R F.tree = T → InvAt y0 adjIn F T

def finV (r : RStyle) (top h : Rat) : VBox :=
  { idx := 0, top := top, mt := r.mt, mb := r.mb, bt := r.bt, pt := r.pt, pb := r.pb, bb := r.bb, h := h,
    height := r.height, minH := r.minH, maxH := r.maxH, isRoot := r.isRoot, lines := r.lines, lineH := r.lineH }

theorem finV_topBarrier (r : RStyle) (top h : Rat) : (finV r top h).topBarrier = !r.cwc := by
  simp [finV, VBox.topBarrier, RStyle.cwc]

theorem inv_close {r : RStyle} {cs : List RBox} {y0 : Rat} {adjIn p : List Rat} {Y : Rat} {A : List Rat}
    {kids : List LTree} {C : VRes} {top h : Rat}
    (hC : C = vClose r y0 adjIn p Y A false kids) (htop : top = C.tree.box.borderTop) (hh : h = C.tree.box.h)
    (hF : vbox y0 adjIn (.mk r cs) = C)
    (hthru : thru (.mk (finV r top h) (vtreeList cs kids)) = none)
    (hp : p = adjIn ++ topGroup (.mk (finV r top h) (vtreeList cs kids)))
    (hbot : C.adj ++ [r.mb] = botGroup (.mk (finV r top h) (vtreeList cs kids)))
    (hv : stackViols (.mk (finV r top h) (vtreeList cs kids)) = []) : Inv y0 adjIn (.mk r cs) := by
  intro F T hF' hT
  rw [hF] at hF'
  subst hF'
  rw [show vtree (.mk r cs) C.tree = .mk (finV r top h) (vtreeList cs kids) by subst hC htop hh; rfl] at hT
  subst hT
  refine ⟨by rw [hC]; rfl, hthru, by rw [hC]; exact hp, ?_, hbot, hv⟩
  refine (show top = y0 + collapseMargin (if r.cwc then p else adjIn ++ [r.mt]) by
    rw [htop, hC, vClose_top]).trans ?_
  cases hc : r.cwc
  · rw [topGroup, finV_topBarrier, hc]; rfl
  · rw [if_pos rfl, ← hp]

theorem thru_childless (r : RStyle) (top h : Rat) (hs : (r.lines != 0 || !r.emptyThrough) = true) :
    thru (.mk (finV r top h) []) = none := by
  simp only [thru]
  split
  · rfl
  · split
    · simp_all [finV, VBox.topBarrier, VBox.botBarrier, RStyle.emptyThrough]
    · rfl

theorem vbox_childless (r : RStyle) (hs : (r.lines != 0 || !r.emptyThrough) = true) (y0 : Rat) (adjIn : List Rat) :
    vbox y0 adjIn (.mk r []) =
      vClose r y0 adjIn (adjIn ++ [r.mt])
        (y0 + collapseMargin (adjIn ++ [r.mt]) + r.bt + r.pt + if r.lines != 0 then (r.lines : Rat) * r.lineH else 0)
        [] false [] := by
  rw [vbox]
  by_cases hl : r.lines = 0
  · have hs' : r.emptyThrough = false := by simpa [hl] using hs
    simp only [hl, if_true, vlist, List.isEmpty_nil, beq_self_eq_true, Bool.and_self, bne_self_eq_false,
      Bool.false_eq_true, if_false]
    rw [vFinish_leaf _ _ _ _ _ hs', vStart_p, vStart_edge_nil, Rat.add_zero]
  · have hb : (r.lines != 0) = true := by simpa using hl
    have hb' : (r.lines == 0) = false := by simpa using hl
    simp only [hl, if_false, hb, hb', Bool.and_false, if_true]
    rw [vFinish_inner]
    simp only [vText, vStart_p, vStart_edge_nil, ite_self]

theorem inv_childless (r : RStyle) (hs : (r.lines != 0 || !r.emptyThrough) = true) :
    ∀ y0 adjIn, Inv y0 adjIn (.mk r []) := by
  intro y0 adjIn
  refine inv_close rfl rfl rfl (vbox_childless r hs y0 adjIn) (thru_childless _ _ _ hs) ?_ ?_
    (stackViols_childless ?_)
  · exact congrArg _ (topGroup_childless (finV r _ _)).symm
  · rw [vClose_adj, ite_self]; exact (botGroup_childless (finV r _ _)).symm
  · simp only [finV]
    rw [vClose_h, vClose_top, ite_self, collapseMargin_nil, ite_self]
    cases r.height with
    | val x => rfl
    | auto => simp only; congr 1; grind

def InvList (cs : List RBox) : Prop :=
  ∀ (parent : VBox) (st : VLoop) (prevT : VTree),
    st.aliased = false → st.y = prevT.v.bottom → st.adj = botGroup prevT → thru prevT = none →
    (walkChildren parent { prev := some prevT, pending := [], nested := false, viols := [] }
        (vtreeList cs (vlist st cs).2)).viols = [] ∧
    (walkChildren parent { prev := some prevT, pending := [], nested := false, viols := [] }
        (vtreeList cs (vlist st cs).2)).pending = [] ∧
    (vlist st cs).1.p = st.p ∧
    stackViolsList (vtreeList cs (vlist st cs).2) = [] ∧
    ∃ lastT, (walkChildren parent { prev := some prevT, pending := [], nested := false, viols := [] }
        (vtreeList cs (vlist st cs).2)).prev = some lastT ∧
      (vlist st cs).1.y = lastT.v.bottom ∧ (vlist st cs).1.adj = botGroup lastT ∧
      botList (prevT :: vtreeList cs (vlist st cs).2) = botGroup lastT ∧
      thruList (prevT :: vtreeList cs (vlist st cs).2) = none

theorem invList_nil : InvList [] := by
  intro parent st prevT _ hy hadj hthru
  simp only [vlist, vtreeList, walkChildren, stackViolsList, true_and]
  refine ⟨prevT, rfl, hy, hadj, ?_, ?_⟩
  · simp [botList, thruList, hthru]
  · simp [thruList, hthru]

theorem invList_cons (c : RBox) (cs : List RBox) (hc : ∀ y0 adjIn, Inv y0 adjIn c) (hcs : InvList cs) :
    InvList (c :: cs) := by
  intro parent st prevT hal hy hadj hthru
  obtain ⟨h1, h2, _, h4, h5, h6⟩ := hc st.y st.adj _ _ rfl rfl
  obtain ⟨a1, a2, a3, a4, lastT, b1, b2, b3, b4, b5⟩ :=
    hcs parent (nextSt st (vbox st.y st.adj c)) _ rfl (nextSt_bottom st rfl) (nextSt_adj st rfl h5) h2
  have hstep := stepChild_solid (parent := parent) (some prevT) h2
    (show _ = prevT.v.bottom + collapseSpec (botGroup prevT ++ topGroup _) by
      rw [h4, hy, hadj, collapseMargin_eq_spec])
  rw [vlist_cons cs h1]
  simp only [vtreeList, walkChildren, hstep, stackViolsList, h6, List.nil_append]
  refine ⟨a1, a2, a3.trans (by simp only [nextSt, hal]; rfl), a4, lastT, b1, b2, b3, ?_, ?_⟩
  · simp only [botList, b5]; exact b4
  · simp only [thruList, hthru]

/-- `*thisBoxAdjoiningMargins` after the first child: the first-child chain has appended to it
    exactly when the box collapses with its children -/
theorem first_child_p {r : RStyle} {y0 : Rat} {adjIn g : List Rat} {rc : VRes}
    (h3 : rc.pOut = (vStart r y0 adjIn).adj ++ g) :
    (nextSt (vStart r y0 adjIn) rc).p = adjIn ++ r.mt :: if r.cwc then g else [] := by
  cases hc : r.cwc <;> simp only [vStart, hc] at h3 <;> simp [nextSt, vStart, hc, h3]

theorem first_child_top {r : RStyle} {y0 : Rat} {adjIn g : List Rat} {x top h : Rat}
    (htop : top = y0 + collapseMargin (if r.cwc then adjIn ++ r.mt :: g else adjIn ++ [r.mt]))
    (h4 : x = (vStart r y0 adjIn).y + collapseMargin ((vStart r y0 adjIn).adj ++ g)) :
    x = if (finV r top h).topBarrier then (finV r top h).contentTop + collapseSpec g else (finV r top h).top := by
  rw [h4, vStart_edge, finV_topBarrier, VBox.contentTop, ← collapseMargin_eq_spec]
  cases hc : r.cwc <;> simp only [hc, if_true, Bool.false_eq_true, if_false] at htop ⊢ <;> rw [htop]
  · rfl
  · simp [finV]

theorem botGroup_finV {r : RStyle} {cs : List VTree} {last : VTree} (top h : Rat) (hl : r.lines = 0)
    (hb : botList cs = botGroup last) :
    botGroup (.mk (finV r top h) cs) =
      (if r.bb != 0 || r.pb != 0 || r.isRoot then [] else if r.height.isAuto then botGroup last else []) ++ [r.mb] := by
  simp only [botGroup, hb, finV, VBox.botBarrier, hl, bne_self_eq_false, Bool.or_false]
  cases (r.bb != 0 || r.pb != 0 || r.isRoot) <;> cases r.height <;> rfl

theorem inv_node (r : RStyle) (c : RBox) (cs : List RBox) (hl0 : r.lines = 0) (hc : ∀ y0 adjIn, Inv y0 adjIn c)
    (hcs : InvList cs) : ∀ y0 adjIn, Inv y0 adjIn (.mk r (c :: cs)) := by
  intro y0 adjIn
  -- the first child through `first_child_p`/`first_child_top`, the others through `InvList`,
  -- the box closed by `inv_close`
  generalize hrc : vbox (vStart r y0 adjIn).y (vStart r y0 adjIn).adj c = rc
  generalize hTc : vtree c rc.tree = Tc
  generalize hlk : vlist (nextSt (vStart r y0 adjIn) rc) cs = lk
  obtain ⟨C, hC⟩ : ∃ C, C = vClose r y0 adjIn lk.1.p lk.1.y (if r.height.isAuto then lk.1.adj else []) false
    (rc.tree :: lk.2) := ⟨_, rfl⟩
  obtain ⟨top, htop⟩ : ∃ top, top = C.tree.box.borderTop := ⟨_, rfl⟩
  obtain ⟨h, hh⟩ : ∃ h, h = C.tree.box.h := ⟨_, rfl⟩
  obtain ⟨h1, h2, h3, h4, h5, h6⟩ := hc _ _ rc Tc hrc hTc
  have hF : vbox y0 adjIn (.mk r (c :: cs)) = C := by
    rw [vbox, if_pos hl0, vlist_cons cs (hrc ▸ h1), hrc, hlk, hC, ← vFinish_inner]; rfl
  obtain ⟨a1, a2, a3, a4, last, b1, b2, b3, b4, b5⟩ :=
    hcs (finV r top h) _ Tc rfl (nextSt_bottom (vStart r y0 adjIn) hTc) (nextSt_adj _ hTc h5) h2
  rw [hlk] at a1 a2 a3 a4 b1 b2 b3 b4 b5
  have hp : lk.1.p = adjIn ++ topGroup (.mk (finV r top h) (Tc :: vtreeList cs lk.2)) := by
    rw [a3, first_child_p h3, topGroup_node _ h2, finV_topBarrier]
    cases r.cwc <;> simp [finV, hl0]
  have hvt : vtreeList (c :: cs) (rc.tree :: lk.2) = Tc :: vtreeList cs lk.2 := by rw [vtreeList, hTc]
  refine inv_close hC htop hh hF ?_ ?_ ?_ ?_ <;> rw [hvt]
  · exact thru_node_none b5
  · exact hp
  · rw [hC, vClose_adj, botGroup_finV _ _ hl0 b4, b3]
  · refine stackViols_node h2 (first_child_top ?_ h4) rfl a1 a2 b1 h6 a4 ?_
    · rw [htop, hC, vClose_top, hp, topGroup_node _ h2, finV_topBarrier]
      cases r.cwc <;> simp [finV, hl0]
    · simp only [finV, VBox.botBarrier, VBox.contentTop]
      rw [hh, htop, hC, vClose_h, b2, b3, collapseMargin_eq_spec]
      cases r.height <;> rfl

mutual
  theorem inv_solid : (R : RBox) → solid R = true → ∀ y0 adjIn, Inv y0 adjIn R
    | .mk r [], h => inv_childless r (by simpa [solid, solidList] using h)
    | .mk r (c :: cs), h =>
      have h' : r.lines = 0 ∧ solid c = true ∧ solidList cs = true := by simpa [solid, solidList] using h
      inv_node r c cs h'.1 (inv_solid c h'.2.1) (invList_solid cs h'.2.2)
  theorem invList_solid : (cs : List RBox) → solidList cs = true → InvList cs
    | [], _ => invList_nil
    | c :: cs, h =>
      have h' : solid c = true ∧ solidList cs = true := by simpa [solidList] using h
      invList_cons c cs (inv_solid c h'.1) (invList_solid cs h'.2)
end

theorem root_top (r : RStyle) (cs : List RBox) (hroot : r.isRoot = true) (hs : solid (.mk r cs) = true) :
    (vtree (.mk r cs) (vbox 0 [] (.mk r cs)).tree).v.top = (vtree (.mk r cs) (vbox 0 [] (.mk r cs)).tree).v.mt := by
  rw [(inv_solid (.mk r cs) hs 0 [] _ _ rfl rfl).top]
  cases (vbox 0 [] (.mk r cs)).tree with
  | mk b ks =>
    simp only [vtree, topGroup, VBox.topBarrier, hroot, Bool.or_true, Bool.true_or, if_true, List.nil_append, VTree.v]
    rw [collapseMargin_single, Rat.zero_add]

end WR.C10
