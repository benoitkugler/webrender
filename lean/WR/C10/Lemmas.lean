/-
  C10 — everything but stacking: `collapseMargin` against `collapseSpec`; `blockLevelWidth` against
  §10.3.3/§10.4 (`css1033`, `cssWidth`); `resolvePercentages` against `specResolve` for valid styles; the
  interleaved passes `ibox`/`ilist` against `vbox`/`vlist`.
-/
import WR.C10.Spec
namespace WR.C10

theorem foldl_collapseStep (ms : List Rat) : ∀ (a b : Rat), 0 ≤ a → b ≤ 0 →
    ms.foldl collapseStep (a, b) =
      (ms.foldl (fun acc m => if acc < m then m else acc) a, ms.foldl (fun acc m => if m < acc then m else acc) b) := by
  induction ms with
  | nil => intros; rfl
  | cons m ms ih =>
    intro a b ha hb
    simp only [List.foldl_cons, collapseStep]
    by_cases h1 : a < m
    · have h2 : ¬ m < b := by grind
      simp only [h1, h2, if_true, if_false]
      exact ih m b (by grind) hb
    · simp only [h1, if_false]
      by_cases h2 : m < b
      · simp only [h2, if_true]; exact ih a m ha (by grind)
      · simp only [h2, if_false]; exact ih a b ha hb

theorem collapseMargin_eq_spec (ms : List Rat) : collapseMargin ms = collapseSpec ms := by
  unfold collapseMargin collapseSpec maxPos minNeg
  rw [foldl_collapseStep ms 0 0 (by decide) (by decide)]

/-- `lt` is `<` for `maxPos` and `>` for `minNeg` -/
theorem foldl_extremum (lt : Rat → Rat → Prop) [DecidableRel lt] (asymm : ∀ {a b}, lt a b → ¬ lt b a)
    (ntrans : ∀ {a b c}, ¬ lt b a → ¬ lt c b → ¬ lt c a) (ms : List Rat) :
    ∀ a r, ms.foldl (fun acc m => if lt acc m then m else acc) a = r →
      ¬ lt r a ∧ (∀ m ∈ ms, ¬ lt r m) ∧ (r = a ∨ r ∈ ms) := by
  induction ms with
  | nil => intro a r hr; subst hr; exact ⟨fun h => asymm h h, by simp, .inl rfl⟩
  | cons x xs ih =>
    intro a r hr
    obtain ⟨h1, h2, h3⟩ := ih _ r hr
    simp only [List.mem_cons, forall_eq_or_imp]
    by_cases hax : lt a x
    · simp only [hax, if_true] at h1 h3
      exact ⟨ntrans (asymm hax) h1, ⟨h1, h2⟩, .inr h3⟩
    · simp only [hax, if_false] at h1 h3
      exact ⟨h1, ⟨ntrans hax h1, h2⟩, h3.elim .inl (.inr ∘ .inr)⟩

theorem not_lt_trans {a b c : Rat} (h1 : ¬ b < a) (h2 : ¬ c < b) : ¬ c < a :=
  Rat.not_lt.2 (Rat.le_trans (Rat.not_lt.1 h1) (Rat.not_lt.1 h2))

theorem maxPos_perm {l₁ l₂ : List Rat} (h : l₁.Perm l₂) : maxPos l₁ = maxPos l₂ := by
  unfold maxPos
  apply List.Perm.foldl_eq' h
  intro x _ y _ z
  grind

theorem minNeg_perm {l₁ l₂ : List Rat} (h : l₁.Perm l₂) : minNeg l₁ = minNeg l₂ := by
  unfold minNeg
  apply List.Perm.foldl_eq' h
  intro x _ y _ z
  grind

theorem MF.zeroAuto (m : MF) : (if m.isAuto then .val 0 else m) = .val m.V := by cases m <;> rfl

theorem blockLevelWidth_.auto (cb pb : Rat) (ml mr : MF) :
    blockLevelWidth_ cb pb ⟨ml, mr, .auto⟩ = ⟨.val ml.V, .val mr.V, .val (cb - (pb + ml.V + mr.V))⟩ := by
  simp only [blockLevelWidth_, MF.zeroAuto, MF.V]

/-- over-constrained: blocks.go does "nothing in ltr", the specified margin-right stays -/
theorem blockLevelWidth_.over {cb pb w : Rat} {ml mr : MF} (h : cb < pb + w + ml.V + mr.V) :
    blockLevelWidth_ cb pb ⟨ml, mr, .val w⟩ = ⟨.val ml.V, .val mr.V, .val w⟩ := by
  simp only [blockLevelWidth_, h, if_true, MF.zeroAuto]

theorem blockLevelWidth_.fit {cb pb w : Rat} {ml mr : MF} (h : ¬ cb < pb + w + ml.V + mr.V) :
    blockLevelWidth_ cb pb ⟨ml, mr, .val w⟩ =
      match (generalizing := false) ml, mr with
      | .auto, .auto => ⟨.val ((cb - pb - w) / 2), .val ((cb - pb - w) / 2), .val w⟩
      | .auto, .val r => ⟨.val (cb - pb - w - r), .val r, .val w⟩
      | .val l, .auto => ⟨.val l, .val (cb - pb - w - l), .val w⟩
      | .val l, .val r => ⟨.val l, .val r, .val w⟩ := by
  simp only [blockLevelWidth_, h, if_false]
  cases ml <;> cases mr <;> rfl

theorem css1033_over {cb pb w : Rat} {ml mr : MF} (h : cb < pb + w + ml.V + mr.V) :
    css1033 cb pb ml mr (.val w) = ⟨ml.V, cb - pb - w - ml.V, w⟩ := by
  simp only [css1033, h, decide_true, if_true]

theorem css1033_equation (cb pb : Rat) (ml mr w : MF) :
    (css1033 cb pb ml mr w).ml + pb + (css1033 cb pb ml mr w).w + (css1033 cb pb ml mr w).mr = cb := by
  cases w with
  | auto => simp only [css1033]; grind
  | val w => simp only [css1033]; split <;> grind

theorem css1033_w_val (cb pb v : Rat) (ml mr : MF) : (css1033 cb pb ml mr (.val v)).w = v := by
  simp only [css1033]; split <;> rfl

/-- §10.3.3 hands a given width back, so a clamping step of §10.4 only shows where it fires -/
theorem css1033_w_ite (cb pb v : Rat) (ml mr a : MF) (c : Prop) [Decidable c] :
    (css1033 cb pb ml mr (if c then .val v else a)).w = if c then v else (css1033 cb pb ml mr a).w := by
  split
  · exact css1033_w_val ..
  · rfl

theorem blockLevelWidth_.spec (cb pb : Rat) (h : HState) :
    (blockLevelWidth_ cb pb h).width = .val (css1033 cb pb h.ml h.mr h.width).w ∧
    (blockLevelWidth_ cb pb h).ml = .val (css1033 cb pb h.ml h.mr h.width).ml ∧
      (if overConstrained cb pb h.ml h.mr h.width then (blockLevelWidth_ cb pb h).mr = .val h.mr.V
       else (blockLevelWidth_ cb pb h).mr = .val (css1033 cb pb h.ml h.mr h.width).mr) := by
  obtain ⟨ml, mr, w⟩ := h
  cases w with
  | auto =>
    rw [blockLevelWidth_.auto]
    refine ⟨?_, rfl, rfl⟩
    simp only [css1033]; congr 1; grind
  | val w =>
    by_cases h : cb < pb + w + ml.V + mr.V
    · rw [blockLevelWidth_.over h, css1033_over h]
      simp [overConstrained, h]
    · rw [blockLevelWidth_.fit h]
      simp only [css1033, overConstrained, h, decide_false, Bool.false_eq_true, if_false, Bool.false_or]
      cases ml <;> cases mr <;> exact ⟨rfl, rfl, rfl⟩

theorem blockLevelWidth_.width_eq (cb pb : Rat) (h : HState) :
    (blockLevelWidth_ cb pb h).width.V = (css1033 cb pb h.ml h.mr h.width).w := by
  rw [(blockLevelWidth_.spec cb pb h).1]; rfl

theorem blockLevelWidth_eq (cb pb minW : Rat) (maxW : Option Rat) (h : HState) :
    blockLevelWidth cb pb minW maxW h =
      blockLevelWidth_ cb pb { ml := h.ml, mr := h.mr, width := cssWidthArg cb pb minW maxW h.ml h.mr h.width } := by
  obtain ⟨ml, mr, w⟩ := h
  unfold blockLevelWidth cssWidthArg
  cases maxW <;>
    simp only [apply_ite (fun a => blockLevelWidth_ cb pb ⟨ml, mr, a⟩), apply_ite (fun r : HState => r.width.V),
      blockLevelWidth_.width_eq, css1033_w_val, css1033_w_ite]

theorem blockLevelWidth_cssWidth (cb pb minW : Rat) (maxW : Option Rat) (h : HState) :
    (blockLevelWidth cb pb minW maxW h).width = .val (cssWidth cb pb minW maxW h.ml h.mr h.width).w ∧
    (blockLevelWidth cb pb minW maxW h).ml = .val (cssWidth cb pb minW maxW h.ml h.mr h.width).ml ∧
      (if overConstrained cb pb h.ml h.mr (cssWidthArg cb pb minW maxW h.ml h.mr h.width) then
        (blockLevelWidth cb pb minW maxW h).mr = .val h.mr.V
       else (blockLevelWidth cb pb minW maxW h).mr = .val (cssWidth cb pb minW maxW h.ml h.mr h.width).mr) := by
  rw [blockLevelWidth_eq]
  exact blockLevelWidth_.spec cb pb ⟨h.ml, h.mr, cssWidthArg cb pb minW maxW h.ml h.mr h.width⟩

theorem cssWidth_w (cb pb minW : Rat) (maxW : Option Rat) (ml mr w : MF) :
    (cssWidth cb pb minW maxW ml mr w).w =
      ratMax (match maxW with
              | some m => ratMin (css1033 cb pb ml mr w).w m
              | none => (css1033 cb pb ml mr w).w) minW := by
  unfold cssWidth cssWidthArg ratMax ratMin
  cases maxW <;> simp only [css1033_w_ite]

def Dim.nonneg : Dim → Prop
  | .auto => True
  | .px v => 0 ≤ v
  | .pct v => 0 ≤ v

theorem pct_nonneg {a p : Rat} (ha : 0 ≤ a) (hp : 0 ≤ p) : 0 ≤ a * p / 100 := by
  have h := Rat.mul_nonneg ha hp
  grind

theorem resolveOne_V (d : Dim) (ref : Rat) : (resolveOne d ref).V = specLen d ref := by
  cases d <;> rfl

theorem specLen_nonneg {d : Dim} {ref : Rat} (hd : d.nonneg) (hr : 0 ≤ ref) : 0 ≤ specLen d ref := by
  cases d <;> simp only [specLen, Dim.nonneg] at * 
  · exact Rat.le_refl
  · exact hd
  · exact pct_nonneg hr hd

theorem shrink_content (sz : Sizing) (pad bor v : Rat) (hp : 0 ≤ pad) (hb : 0 ≤ bor) (hv : 0 ≤ v) :
    (if 0 < boxDelta sz pad bor then ratMax 0 (v - boxDelta sz pad bor) else v) = specContent sz pad bor v := by
  cases sz <;> simp only [boxDelta, specContent, ratMax] <;> grind

theorem shrink_spec (sz : Sizing) (pad bor ref : Rat) (d : Dim) (hp : 0 ≤ pad) (hb : 0 ≤ bor) (hd : d.nonneg)
    (hr : 0 ≤ ref) :
    (if 0 < boxDelta sz pad bor then shrinkMF (boxDelta sz pad bor) (resolveOne d ref) else resolveOne d ref)
      = specSize sz pad bor d ref ∧
    (if 0 < boxDelta sz pad bor then ratMax 0 (resolveMin d ref - boxDelta sz pad bor) else resolveMin d ref)
      = (specSize sz pad bor d ref).V ∧
    (if 0 < boxDelta sz pad bor then shrinkMax (boxDelta sz pad bor) (resolveMax d ref) else resolveMax d ref)
      = (specSize sz pad bor d ref).toOpt := by
  have h := shrink_content sz pad bor (specLen d ref) hp hb (specLen_nonneg hd hr)
  cases d with
  | auto => exact ⟨ite_self _, by simp only [resolveMin, resolveOne, specSize, MF.V, ratMax]; grind, ite_self _⟩
  | px v | pct p =>
    exact ⟨(apply_ite MF.val ..).symm.trans (congrArg _ h), h, (apply_ite some ..).symm.trans (congrArg _ h)⟩

/-- what the validator guarantees -/
structure Style.Valid (s : Style) : Prop where
  pl : s.pl.nonneg
  pr : s.pr.nonneg
  pt : s.pt.nonneg
  pb : s.pb.nonneg
  bl : 0 ≤ s.bl
  br : 0 ≤ s.br
  bt : 0 ≤ s.bt
  bb : 0 ≤ s.bb
  width : s.width.nonneg
  minW : s.minW.nonneg
  maxW : s.maxW.nonneg
  height : s.height.nonneg
  minH : s.minH.nonneg
  maxH : s.maxH.nonneg

theorem resolvePercentages_eq_spec (cbW : Rat) (cbH : MF) (s : Style) (hw : 0 ≤ cbW)
    (hh : ∀ h, cbH = .val h → 0 ≤ h) (v : s.Valid) :
    resolvePercentages cbW cbH s = specResolve cbW cbH s := by
  have hpad : 0 ≤ specLen s.pl cbW + specLen s.pr cbW :=
    Rat.add_nonneg (specLen_nonneg v.pl hw) (specLen_nonneg v.pr hw)
  have hbor : 0 ≤ s.bl + s.br := Rat.add_nonneg v.bl v.br
  have vpad : 0 ≤ specLen s.pt cbW + specLen s.pb cbW :=
    Rat.add_nonneg (specLen_nonneg v.pt hw) (specLen_nonneg v.pb hw)
  have vbor : 0 ≤ s.bt + s.bb := Rat.add_nonneg v.bt v.bb
  have hH := v.height
  have hminH := v.minH
  have hmaxH := v.maxH
  unfold resolvePercentages specResolve
  simp only [resolveOne_V]
  congr 1
  · cases s.ml <;> rfl
  · cases s.mr <;> rfl
  · cases s.mt <;> rfl
  · cases s.mb <;> rfl
  · exact (shrink_spec _ _ _ _ _ hpad hbor v.width hw).1
  · exact (shrink_spec _ _ _ _ _ hpad hbor v.minW hw).2.1
  · exact (shrink_spec _ _ _ _ _ hpad hbor v.maxW hw).2.2
  · generalize s.height = d at hH
    cases cbH with
    | auto => cases d with
      | pct p => exact ite_self _
      | _ => exact (shrink_spec _ _ _ 0 _ vpad vbor hH Rat.le_refl).1
    | val h => exact (shrink_spec _ _ _ h _ vpad vbor hH (hh h rfl)).1
  · generalize s.minH = d at hminH
    cases cbH with
    | auto => cases d with
      | pct p =>
        simp only [resolveMin, resolveOne, ratMax]
        grind
      | _ => exact (shrink_spec _ _ _ 0 _ vpad vbor hminH Rat.le_refl).2.1
    | val h => exact (shrink_spec _ _ _ h _ vpad vbor hminH (hh h rfl)).2.1
  · generalize s.maxH = d at hmaxH
    cases cbH with
    | auto => cases d with
      | pct p => exact ite_self _
      | _ => exact (shrink_spec _ _ _ 0 _ vpad vbor hmaxH Rat.le_refl).2.2
    | val h => exact (shrink_spec _ _ _ h _ vpad vbor hmaxH (hh h rfl)).2.2

theorem resolveList_isEmpty (cbW : Rat) (cbH : MF) (x : Rat) (cs : List Box) :
    (resolveList cbW cbH x cs).isEmpty = cs.isEmpty := by
  cases cs <;> simp [resolveList]

mutual
  theorem ibox_eq (cbW : Rat) (cbH : MF) (x : Rat) (isRoot : Bool) (y0 : Rat) (adjIn : List Rat) :
      (b : Box) → ibox cbW cbH x isRoot y0 adjIn b = vbox y0 adjIn (resolveBox cbW cbH x isRoot b)
    | .mk s cs => by
      rw [ibox, resolveBox, vbox]
      simp only [resolveList_isEmpty]
      rw [ilist_eq]
  theorem ilist_eq (cbW : Rat) (cbH : MF) (x : Rat) (st : VLoop) :
      (cs : List Box) → ilist cbW cbH x st cs = vlist st (resolveList cbW cbH x cs)
    | [] => by rw [ilist, resolveList, vlist]
    | c :: cs => by
      rw [ilist, resolveList, vlist]
      simp only [ibox_eq cbW cbH x false st.y st.adj c]
      rw [ilist_eq]
end

end WR.C10
