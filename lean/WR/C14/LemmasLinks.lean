/-
  C14 — helper lemmas about the anchor / link model (WR/C14/Links.lean).
-/
import WR.C14.Spec
namespace WR.C14

variable {α : Type}

theorem findName_cons (n m : String) (a : α) (r : List (String × α)) :
    findName n ((m, a) :: r) = if m = n then some (m, a) else findName n r := by
  by_cases h : m = n <;> simp [findName, h]

theorem findName_append (n : String) (a b : List (String × α)) :
    findName n (a ++ b) = (findName n a).or (findName n b) := by
  simp [findName, List.find?_append]

theorem gatherAnchors_cons (seen : List String) (m : String) (a : α) (r : List (String × α)) :
    gatherAnchors seen ((m, a) :: r)
      = if m = "" ∨ m ∈ seen then gatherAnchors seen r else (m, a) :: gatherAnchors (m :: seen) r := by
  rw [gatherAnchors]
  simp only [Bool.or_eq_true, beq_iff_eq, List.contains_eq_mem, decide_eq_true_eq]

theorem gatherAnchors_find : ∀ (cs : List (String × α)) (seen : List String) (n : String),
    findName n (gatherAnchors seen cs) = if n = "" ∨ n ∈ seen then none else findName n cs
  | [], seen, n => by simp [gatherAnchors, findName]
  | (m, a) :: r, seen, n => by
    rw [gatherAnchors_cons, findName_cons]
    by_cases hm : m = "" ∨ m ∈ seen
    · rw [if_pos hm, gatherAnchors_find r seen n]
      by_cases hn : n = "" ∨ n ∈ seen
      · rw [if_pos hn, if_pos hn]
      · rw [if_neg hn, if_neg hn, if_neg (fun (h : m = n) => hn (h ▸ hm))]
    · rw [if_neg hm, findName_cons, gatherAnchors_find r (m :: seen) n]
      by_cases hmn : m = n
      · rw [if_pos hmn, if_pos hmn, if_neg (hmn ▸ hm)]
      · have : n ∈ m :: seen ↔ n ∈ seen := by rw [List.mem_cons, or_iff_right (fun h => hmn h.symm)]
        simp only [if_neg hmn, this]

theorem gatherAnchors_sublist : ∀ (cs : List (String × α)) (seen : List String), (gatherAnchors seen cs).Sublist cs
  | [], _ => .slnil
  | (m, a) :: r, seen => by
    rw [gatherAnchors_cons]
    split
    · exact (gatherAnchors_sublist r seen).cons _
    · exact (gatherAnchors_sublist r _).cons_cons _

theorem gatherAnchors_names : ∀ (cs : List (String × α)) (seen : List String),
    ((gatherAnchors seen cs).map (·.1)).Nodup ∧ ∀ n ∈ (gatherAnchors seen cs).map (·.1), n ∉ seen ∧ n ≠ ""
  | [], _ => ⟨.nil, nofun⟩
  | (m, a) :: r, seen => by
    rw [gatherAnchors_cons]
    split
    · exact gatherAnchors_names r seen
    · next hm =>
      obtain ⟨h1, h2⟩ := gatherAnchors_names r (m :: seen)
      rw [not_or] at hm
      rw [List.map_cons, List.nodup_cons, List.forall_mem_cons]
      exact ⟨⟨fun hin => (h2 m hin).1 List.mem_cons_self, h1⟩, ⟨hm.2, hm.1⟩,
        fun n hn => ⟨fun hs => (h2 n hn).1 (List.mem_cons_of_mem _ hs), (h2 n hn).2⟩⟩

/-! ## the sort of a page's anchors by name -/

theorem insertByName_perm (x : String × α) : ∀ l : List (String × α), (insertByName x l).Perm (x :: l) := by
  intro l
  induction l with
  | nil => simp [insertByName]
  | cons y ys ih =>
    by_cases h : x.1 < y.1
    · simp [insertByName, h]
    · simp only [insertByName, h, if_false]
      exact (List.Perm.cons y ih).trans (List.Perm.swap x y ys)

theorem sortByName_perm : ∀ l : List (String × α), (sortByName l).Perm l := by
  intro l
  induction l with
  | nil => simp [sortByName]
  | cons x xs ih => exact (insertByName_perm x _).trans (List.Perm.cons x ih)

theorem insertByName_sorted (x : String × α) : ∀ l : List (String × α), l.Pairwise (fun a b => a.1 ≤ b.1) →
    (insertByName x l).Pairwise (fun a b => a.1 ≤ b.1) := by
  intro l
  induction l with
  | nil => intro _; simp [insertByName]
  | cons y ys ih =>
    intro hs
    have hy := List.pairwise_cons.mp hs
    by_cases h : x.1 < y.1
    · simp only [insertByName, h, if_true]
      refine List.pairwise_cons.mpr ⟨?_, hs⟩
      intro a ha
      simp only [List.mem_cons] at ha
      rcases ha with rfl | ha
      · exact Std.le_of_lt h
      · exact String.le_trans (Std.le_of_lt h) (hy.1 a ha)
    · simp only [insertByName, h, if_false]
      refine List.pairwise_cons.mpr ⟨?_, ih hy.2⟩
      intro a ha
      have := (insertByName_perm x ys).mem_iff.mp ha
      simp only [List.mem_cons] at this
      rcases this with rfl | ha'
      · exact String.not_lt.mp h
      · exact hy.1 a ha'

theorem sortByName_sorted : ∀ l : List (String × α), (sortByName l).Pairwise (fun a b => a.1 ≤ b.1) := by
  intro l
  induction l with
  | nil => simp [sortByName]
  | cons x xs ih => exact insertByName_sorted x _ ih

theorem findName_insert (n : String) (x : String × α) : ∀ l : List (String × α), x.1 ∉ l.map (·.1) →
    findName n (insertByName x l) = findName n (x :: l) := by
  intro l
  induction l with
  | nil => intro _; simp [insertByName]
  | cons y ys ih =>
    intro hx
    have hxy : x.1 ≠ y.1 := by
      intro h; apply hx; simp [h]
    have hx' : x.1 ∉ ys.map (·.1) := by
      intro h; apply hx; simp only [List.map_cons, List.mem_cons]; exact Or.inr h
    obtain ⟨xn, xa⟩ := x
    obtain ⟨yn, ya⟩ := y
    by_cases h : xn < yn
    · simp [insertByName, h]
    · simp only [insertByName, h, if_false]
      rw [findName_cons, ih hx', findName_cons, findName_cons, findName_cons]
      by_cases h1 : yn = n
      · subst h1
        have : ¬ xn = yn := hxy
        simp [this]
      · simp [h1]

theorem sortByName_find (n : String) : ∀ l : List (String × α), (l.map (·.1)).Nodup →
    findName n (sortByName l) = findName n l := by
  intro l
  induction l with
  | nil => intro _; simp [sortByName]
  | cons x xs ih =>
    intro hnd
    simp only [List.map_cons, List.nodup_cons] at hnd
    simp only [sortByName]
    rw [findName_insert]
    · obtain ⟨xn, xa⟩ := x
      rw [findName_cons, findName_cons, ih hnd.2]
    · intro hin
      apply hnd.1
      exact ((sortByName_perm xs).map (·.1)).mem_iff.mp hin

/-! ## what each page contributes -/

/-- the anchors one page contributes (the `cur` of `pagedAnchors`): its map in sorted name order, without the names
    earlier pages defined -/
def newAnchors (seen : List String) (p : List (String × α)) : List (String × α) :=
  (sortByName p).filter (fun x => !seen.contains x.1)

theorem pagedAnchors_cons (seen : List String) (p : List (String × α)) (ps : List (List (String × α))) :
    pagedAnchors seen (p :: ps) = newAnchors seen p :: pagedAnchors ((newAnchors seen p).map (·.1) ++ seen) ps := rfl

theorem mem_newAnchors {seen : List String} {p : List (String × α)} {a : String × α} :
    a ∈ newAnchors seen p ↔ a ∈ p ∧ a.1 ∉ seen := by
  rw [newAnchors, List.mem_filter, (sortByName_perm p).mem_iff]
  simp

theorem newAnchors_strict {seen : List String} {p : List (String × α)} (hp : (p.map (·.1)).Nodup) :
    (newAnchors seen p).Pairwise (fun a b => a.1 < b.1) := by
  have hne : (sortByName p).Pairwise (fun a b => a.1 ≠ b.1) :=
    List.pairwise_map.1 (List.nodup_iff_pairwise_ne.1 (((sortByName_perm p).map (·.1)).nodup_iff.2 hp))
  exact (((sortByName_sorted p).and hne).imp fun h => Std.lt_of_le_of_ne h.1 h.2).sublist List.filter_sublist

theorem newAnchors_find {seen : List String} {p : List (String × α)} (hp : (p.map (·.1)).Nodup) (n : String) :
    findName n (newAnchors seen p) = if n ∈ seen then none else findName n p := by
  rw [← sortByName_find n p hp, newAnchors, findName, findName, List.find?_filter]
  split
  · next hs =>
    refine List.find?_eq_none.2 fun x _ => ?_
    by_cases hx : x.1 = n <;> simp [hx, hs]
  · next hs =>
    congr 1
    funext x
    by_cases hx : x.1 = n <;> simp [hx, hs]

/-! ## the document's anchors -/

theorem pagedAnchors_find : ∀ (ps : List (List (String × α))) (seen : List String) (n : String),
    (∀ p ∈ ps, (p.map (·.1)).Nodup) →
    findName n (pagedAnchors seen ps).flatten = if n ∈ seen then none else findName n ps.flatten
  | [], seen, n, _ => by simp [pagedAnchors, findName]
  | p :: ps, seen, n, hnd => by
    rw [List.forall_mem_cons] at hnd
    rw [pagedAnchors_cons, List.flatten_cons, List.flatten_cons, findName_append, findName_append,
      pagedAnchors_find ps _ n hnd.2, newAnchors_find hnd.1]
    by_cases hs : n ∈ seen
    · simp [hs]
    · simp only [if_neg hs]
      cases hfp : findName n p with
      | some y => rfl
      | none =>
        -- a name the page does not define is not among those it contributes
        have hcur : n ∉ (newAnchors seen p).map (·.1) := by
          rintro hin
          obtain ⟨x, hx, rfl⟩ := List.mem_map.1 hin
          simpa using List.find?_eq_none.1 hfp x (mem_newAnchors.1 hx).1
        rw [Option.none_or, Option.none_or, if_neg (by simp only [List.mem_append, not_or]; exact ⟨hcur, hs⟩)]

theorem pagedAnchors_names : ∀ (ps : List (List (String × α))) (seen : List String),
    (∀ p ∈ ps, (p.map (·.1)).Nodup) →
    ((pagedAnchors seen ps).flatten.map (·.1)).Nodup ∧ ∀ n ∈ (pagedAnchors seen ps).flatten.map (·.1), n ∉ seen
  | [], _, _ => ⟨.nil, nofun⟩
  | p :: ps, seen, hnd => by
    rw [List.forall_mem_cons] at hnd
    obtain ⟨h1, h2⟩ := pagedAnchors_names ps ((newAnchors seen p).map (·.1) ++ seen) hnd.2
    rw [pagedAnchors_cons, List.flatten_cons, List.map_append, List.nodup_append, List.forall_mem_append]
    have hcur : ((newAnchors seen p).map (·.1)).Nodup :=
      List.nodup_iff_pairwise_ne.2 (List.pairwise_map.2 ((newAnchors_strict hnd.1).imp fun h => String.ne_of_lt h))
    refine ⟨⟨hcur, h1, fun a ha b hb hab => h2 b hb (List.mem_append_left _ (hab ▸ ha))⟩, ?_,
      fun n hn hs => h2 n hn (List.mem_append_right _ hs)⟩
    intro n hn
    obtain ⟨x, hx, rfl⟩ := List.mem_map.1 hn
    exact (mem_newAnchors.1 hx).2

theorem pagedAnchors_per_page : ∀ (ps : List (List (String × α))) (seen : List String), (∀ p ∈ ps, (p.map (·.1)).Nodup) →
    (pagedAnchors seen ps).length = ps.length ∧
    ∀ x ∈ List.zip (pagedAnchors seen ps) ps, (∀ a ∈ x.1, a ∈ x.2) ∧ x.1.Pairwise (fun a b => a.1 < b.1)
  | [], _, _ => ⟨rfl, nofun⟩
  | p :: ps, seen, hnd => by
    rw [List.forall_mem_cons] at hnd
    obtain ⟨h1, h2⟩ := pagedAnchors_per_page ps ((newAnchors seen p).map (·.1) ++ seen) hnd.2
    rw [pagedAnchors_cons, List.length_cons, List.length_cons, h1, List.zip_cons_cons, List.forall_mem_cons]
    exact ⟨rfl, ⟨fun a ha => (mem_newAnchors.1 ha).1, newAnchors_strict hnd.1⟩, h2⟩

theorem flatten_pageAnchors_find : ∀ (cands : List (List (String × α))) (n : String),
    findName n (cands.map pageAnchors).flatten = if n = "" then none else findName n cands.flatten := by
  intro cands
  induction cands with
  | nil => intro n; simp [findName]
  | cons c cs ih =>
    intro n
    simp only [List.map_cons, List.flatten_cons]
    rw [findName_append, findName_append, ih, pageAnchors, gatherAnchors_find]
    by_cases hn : n = "" <;> simp [hn]

theorem pageAnchors_nodup (cands : List (List (String × α))) : ∀ p ∈ cands.map pageAnchors, (p.map (·.1)).Nodup := by
  intro p hp
  obtain ⟨c, _, rfl⟩ := List.mem_map.1 hp
  exact (gatherAnchors_names c []).1

/-! ## links -/

theorem keepLink_iff (defined : List String) (l : Link) :
    keepLink defined l = true ↔ ¬ (l.type = .internal ∧ l.target ∉ defined) := by
  rw [keepLink]
  cases l.type <;> simp

theorem zip_map_self {β γ : Type} (f : β → γ) : ∀ l : List β, List.zip (l.map f) l = l.map fun a => (f a, a)
  | [] => rfl
  | a :: l => by rw [List.map_cons, List.zip_cons_cons, zip_map_self f l, List.map_cons]

theorem resolvePageLinks_spec (defined : List String) (links : List Link) :
    (∀ l ∈ resolvePageLinks defined links, l.type = .internal → l.target ∈ defined)
    ∧ (resolvePageLinks defined links).Sublist links
    ∧ ∀ l ∈ links, l ∈ resolvePageLinks defined links ↔ ¬ (l.type = .internal ∧ l.target ∉ defined) := by
  refine ⟨fun l hl hint => ?_, List.filter_sublist, fun l hl => ?_⟩
  · exact Decidable.by_contra fun h => (keepLink_iff defined l).1 (List.mem_filter.1 hl).2 ⟨hint, h⟩
  · rw [resolvePageLinks, List.mem_filter, keepLink_iff, and_iff_right hl]

end WR.C14
