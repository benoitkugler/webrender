/-
  C14 — the makeBookmarkTree model (WR/C14/Bookmarks.lean) never panics on levels ≥ 1, and in the outline it builds the
  parent of an entry (nearest earlier entry with a smaller depth) is the nearest earlier entry with a smaller
  bookmark-level.

  Route: the `skippedLevels` stack of the Go loop determines the stack of the open ancestors' levels (`levelsOf`); one
  step of the loop is "pop the levels ≥ the new one, push the new one" on that stack (`skipStep_spec`), the depth of
  the new entry is the height of the stack, and for that classic stack algorithm both parent notions are the entry left
  under the new top (`stack_parent`, `depth_parent`).
-/
import WR.C14.Spec
namespace WR.C14

theorem dropWhile_dropWhile_of_imp {α : Type} (p q : α → Bool) (h : ∀ x, q x = true → p x = true) :
    ∀ l : List α, (l.dropWhile q).dropWhile p = l.dropWhile p
  | [] => rfl
  | a :: l => by
    by_cases hq : q a = true
    · rw [List.dropWhile_cons, if_pos hq, List.dropWhile_cons, if_pos (h a hq), dropWhile_dropWhile_of_imp p q h l]
    · rw [List.dropWhile_cons, if_neg hq]

theorem sum_nonneg : ∀ {l : List Int}, (∀ x ∈ l, 0 ≤ x) → 0 ≤ l.sum
  | [], _ => Int.le_refl 0
  | a :: l, h => by
    rw [List.forall_mem_cons] at h
    rw [List.sum_cons]
    exact Int.add_nonneg h.1 (sum_nonneg h.2)

/-! ## the stack of open ancestors' levels -/

/-- the source levels of the open ancestors, top first, read off `skippedLevels` (top first) and
    `previousLevel`: the ancestor under one of level L opened with `s` skipped levels has level L - 1 - s -/
def levelsOf : Int → List Int → List Int
  | _, [] => []
  | prev, p :: rest => prev :: levelsOf (prev - 1 - p) rest

theorem levelsOf_length : ∀ (sk : List Int) (prev : Int), (levelsOf prev sk).length = sk.length
  | [], _ => rfl
  | _ :: rest, _ => congrArg (· + 1) (levelsOf_length rest _)

theorem dropWhile_levelsOf {top level : Int} (h : top < level) (sk : List Int) :
    (levelsOf top sk).dropWhile (fun L => decide (level ≤ L)) = levelsOf top sk := by
  cases sk with
  | nil => rfl
  | cons p rest => rw [levelsOf, List.dropWhile_cons, if_neg (by simpa using h)]

theorem popLoop_spec (prev level : Int) : ∀ (sk : List Int) (temp : Int),
    (∀ x ∈ sk, 0 ≤ x) → prev ≤ temp + sk.length + sk.sum →
    ∃ temp' sk', popLoop prev temp sk = .ok (temp', sk') ∧ prev ≤ temp'
      ∧ temp' + sk'.length + sk'.sum = temp + sk.length + sk.sum ∧ (∀ x ∈ sk', 0 ≤ x)
      ∧ levelsOf (prev + level - temp') sk'
          = (levelsOf (prev + level - temp) sk).dropWhile (fun L => decide (level < L))
  | [], temp, _, h => by
    have : ¬ temp < prev := by simp at h; omega
    exact ⟨temp, [], by rw [popLoop, if_neg this], by omega, rfl, nofun, rfl⟩
  | p :: rest, temp, hpos, h => by
    rw [List.forall_mem_cons] at hpos
    rw [popLoop, levelsOf, List.dropWhile_cons]
    by_cases hlt : temp < prev
    · rw [if_pos hlt, if_pos (by simp; omega)]
      simp only [List.length_cons, List.sum_cons] at h ⊢
      obtain ⟨t', sk', h1, h2, h3, h4, h5⟩ := popLoop_spec prev level rest (temp + 1 + p) hpos.2 (by omega)
      refine ⟨t', sk', h1, h2, by omega, h4, ?_⟩
      rw [h5, show prev + level - (temp + 1 + p) = prev + level - temp - 1 - p by omega]
    · rw [if_neg hlt, if_neg (by simp; omega)]
      exact ⟨temp, p :: rest, rfl, by omega, rfl, List.forall_mem_cons.2 hpos, rfl⟩

/-- the `level > previousLevel` branch of the Go loop is the pop loop popping nothing -/
theorem skipStep_eq (prev : Int) (sk : List Int) (level : Int) :
    skipStep prev sk level = (popLoop prev level sk).bind fun r =>
      if r.1 > prev then .ok ((r.1 - prev - 1) :: r.2) else .ok r.2 := by
  rw [skipStep]
  split
  · next h =>
    have : ¬ level < prev := by omega
    cases sk <;> simp [popLoop, this, h, Except.bind]
  · rfl

theorem skipStep_spec (prev level : Int) (sk : List Int) (hpos : ∀ x ∈ sk, 0 ≤ x)
    (hinv : prev = sk.length + sk.sum) (hl1 : 1 ≤ level) :
    ∃ skn, skipStep prev sk level = .ok skn ∧ (∀ x ∈ skn, 0 ≤ x) ∧ level = skn.length + skn.sum
      ∧ levelsOf level skn = level :: (levelsOf prev sk).dropWhile (fun L => decide (level ≤ L)) := by
  obtain ⟨t', sk', h1, h2, h3, h4, h5⟩ := popLoop_spec prev level sk level hpos (by omega)
  rw [show prev + level - level = prev by omega] at h5
  -- dropping the levels ≥ `level` = dropping the levels > `level`, then the levels ≥ `level` of what is left
  have hdd : (levelsOf (prev + level - t') sk').dropWhile (fun L => decide (level ≤ L))
      = (levelsOf prev sk).dropWhile (fun L => decide (level ≤ L)) := by
    rw [h5]
    exact dropWhile_dropWhile_of_imp _ _ (by intro x hx; simp at hx ⊢; omega) _
  rw [skipStep_eq, h1, ← hdd]
  simp only [Except.bind]
  by_cases ht : t' > prev
  · rw [if_pos ht]
    refine ⟨_, rfl, List.forall_mem_cons.2 ⟨by omega, h4⟩, by simp only [List.length_cons, List.sum_cons]; omega, ?_⟩
    rw [levelsOf, show level - 1 - (t' - prev - 1) = prev + level - t' by omega, dropWhile_levelsOf (by omega)]
  · rw [if_neg ht]
    obtain rfl : t' = prev := by omega
    refine ⟨sk', rfl, h4, by omega, ?_⟩
    rw [show t' + level - t' = level by omega]
    -- an empty stack would mean level = 0
    cases sk' with
    | nil => simp at h3; omega
    | cons p rest =>
      have hp : 0 ≤ p := h4 p List.mem_cons_self
      rw [levelsOf, List.dropWhile_cons, if_pos (by simp), dropWhile_levelsOf (by omega)]

/-- the invariant of the outer loop -/
structure BkInv (s : BkState) : Prop where
  nonneg : ∀ x ∈ s.skipped, 0 ≤ x
  level : s.prev = s.skipped.length + s.skipped.sum
  spine : s.spine = s.skipped.length

theorem bkInv_init : BkInv {} := ⟨nofun, rfl, rfl⟩

theorem bkStep_spec (s : BkState) (hs : BkInv s) (level : Int) (hl : 1 ≤ level) :
    ∃ skn, levelsOf level skn = level :: (levelsOf s.prev s.skipped).dropWhile (fun L => decide (level ≤ L))
      ∧ 1 ≤ skn.length ∧ skn.length ≤ s.spine + 1 ∧ (skn.length : Int) ≤ level
      ∧ BkInv { skipped := skn, prev := level, spine := skn.length }
      ∧ bkStep s level = .ok ({ skipped := skn, prev := level, spine := skn.length }, skn.length) := by
  obtain ⟨skn, hsk, hpos, hlv, hlev⟩ := skipStep_spec s.prev level s.skipped hs.nonneg hs.level hl
  have hsum := sum_nonneg hpos
  have hlen := congrArg List.length hlev
  rw [levelsOf_length, List.length_cons] at hlen
  have := (List.dropWhile_suffix (l := levelsOf s.prev s.skipped) fun L => decide (level ≤ L)).length_le
  rw [levelsOf_length] at this
  have hd : level - skn.sum = (skn.length : Int) := by omega
  have h1 : ¬ (level - skn.sum ≠ (skn.length : Int) ∨ level - skn.sum < 1) := by omega
  refine ⟨skn, hlev, by omega, by rw [hs.spine]; omega, by omega, ⟨hpos, hlv, rfl⟩, ?_⟩
  rw [bkStep, hsk]
  simp only [bind, Except.bind]
  rw [if_neg h1, hd, if_neg (by rw [hs.spine]; simp; omega)]
  rfl

/-! ## the stack algorithm on indexed entries -/

/-- `rp`: the earlier entries (index, level), nearest first; the open ancestors after them, top first -/
def stackOf : List (Nat × Int) → List (Nat × Int)
  | [] => []
  | x :: rp => x :: (stackOf rp).dropWhile (fun y => decide (x.2 ≤ y.2))

/-- the depth the algorithm gives to every earlier entry, nearest first -/
def depthRp : List (Nat × Int) → List (Nat × Int)
  | [] => []
  | x :: rp => (x.1, ((stackOf (x :: rp)).length : Int)) :: depthRp rp

theorem stack_parent (l : Int) : ∀ rp : List (Nat × Int),
    rp.find? (fun y => decide (y.2 < l)) = ((stackOf rp).dropWhile (fun y => decide (l ≤ y.2))).head?
  | [] => rfl
  | x :: rp => by
    rw [stackOf, List.find?_cons, List.dropWhile_cons]
    by_cases hx : x.2 < l
    · rw [if_neg (by simpa using hx), decide_eq_true hx]
      rfl
    · rw [if_pos (by simpa using hx), decide_eq_false hx, stack_parent l rp]
      -- what `x` popped was ≥ `x.2 ≥ l`
      rw [dropWhile_dropWhile_of_imp _ _ (by intro y hy; simp at hy ⊢; omega)]

/-- `T`: a tail of the stack — in the run, what the pops for a new entry leave; the new entry gets depth
    `T.length + 1`, and the nearest earlier entry less deep than that is the top of `T` -/
theorem depth_parent : ∀ (rp T : List (Nat × Int)), T <:+ stackOf rp →
    ((depthRp rp).find? (fun y => decide (y.2 < ((T.length + 1 : Nat) : Int)))).map (·.1) = T.head?.map (·.1)
  | [], T, hT => by cases List.suffix_nil.1 hT; rfl
  | x :: rp, T, hT => by
    rw [depthRp, List.find?_cons]
    rw [stackOf] at hT ⊢
    rcases List.suffix_cons_iff.1 hT with rfl | hT'
    · rw [decide_eq_true (by simp only [List.length_cons]; omega)]; rfl
    · have := hT'.length_le
      rw [decide_eq_false (by simp only [List.length_cons]; omega)]
      exact depth_parent rp T (hT'.trans (List.dropWhile_suffix _))

theorem bkRun_spec : ∀ (levels : List Int) (s : BkState) (rpL : List (Nat × Int)) (i : Nat),
    BkInv s → (∀ l ∈ levels, 1 ≤ l) → levelsOf s.prev s.skipped = (stackOf rpL).map (·.2) →
    ∃ ds, bkRun s levels = .ok ds ∧ ds.length = levels.length ∧ validPreorder s.spine ds = true
      ∧ (∀ x ∈ List.zip ds levels, (x.1 : Int) ≤ x.2)
      ∧ parentsAux (depthRp rpL) i (ds.map Int.ofNat) = parentsAux rpL i levels
  | [], s, rpL, i, _, _, _ => ⟨[], rfl, rfl, rfl, nofun, rfl⟩
  | l :: ls, s, rpL, i, hs, hl, hst => by
    rw [List.forall_mem_cons] at hl
    obtain ⟨skn, hlev, hd1, hd2, hdl, hs', hstep⟩ := bkStep_spec s hs l hl.1
    -- the level stack after the step is the stack of the entries seen so far
    have hst' : levelsOf l skn = (stackOf ((i, l) :: rpL)).map (·.2) := by
      rw [hlev, hst, stackOf, List.map_cons, List.dropWhile_map]; rfl
    have hd : skn.length = ((stackOf rpL).dropWhile (fun y => decide (l ≤ y.2))).length + 1 := by
      rw [← levelsOf_length skn l, hst', List.length_map, stackOf, List.length_cons]
    obtain ⟨ds, g1, g2, g3, g4, g5⟩ := bkRun_spec ls _ ((i, l) :: rpL) (i + 1) hs' hl.2 hst'
    refine ⟨skn.length :: ds, ?_, by rw [List.length_cons, g2, List.length_cons], ?_, ?_, ?_⟩
    · rw [bkRun, hstep]
      simp only [bind, Except.bind]
      rw [g1]
    · rw [validPreorder, g3]
      simp [hd1, hd2]
    · rw [List.zip_cons_cons, List.forall_mem_cons]
      exact ⟨hdl, g4⟩
    · rw [depthRp, stackOf, List.length_cons, ← hd] at g5
      rw [List.map_cons, parentsAux, parentsAux]
      refine congr (congrArg _ ?_) g5
      -- the two parents of the new entry: the top of what the pops leave
      rw [nearestSmaller, nearestSmaller, stack_parent l rpL, ← depth_parent rpL _ (List.dropWhile_suffix _), ← hd]
      rfl

end WR.C14
