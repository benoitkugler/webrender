/-
  C14 — what acceptance by the monitor automata (WR/C14/Proto.lean, WR/C14/ProtoDoc.lean) implies.
-/
import WR.C14.ProtoDoc
namespace WR.C14

theorem Ev.isConsume_not_path {e : Ev} (h : e.isConsume = true) : e.isPath = false := by
  cases e <;> simp_all [Ev.isPath, Ev.isConsume]

theorem Ev.isStart_isPath {e : Ev} (h : e.isStart = true) : e.isPath = true := by
  cases e <;> simp_all [Ev.isStart, Ev.isPath]

theorem Ev.needsCur_not_start {e : Ev} (h : e.needsCur = true) : e.isStart = false := by
  cases e with
  | path c k => cases k <;> simp_all [Ev.needsCur, Ev.isStart]
  | _ => simp_all [Ev.needsCur]

theorem Ev.needsCur_not_consume {e : Ev} (h : e.needsCur = true) : e.isConsume = false := by
  cases e <;> simp_all [Ev.needsCur, Ev.isConsume]

/-- the shape `pathOk` and `curOk` share: a flag that `set` calls raise, `need` calls require and `clear` calls lower
    (a call that is both needed and clearing lowers it after the check) -/
def flagOk (set need clear : Ev → Bool) : Bool → List Ev → Bool
  | _, [] => true
  | p, e :: es =>
    if set e then flagOk set need clear true es
    else if need e then p && flagOk set need clear (!clear e) es
    else if clear e then flagOk set need clear false es
    else flagOk set need clear p es

theorem flagOk_cons {set need clear : Ev → Bool} {p : Bool} {e : Ev} {es : List Ev} (hs : set e = false) (h : flagOk set need clear p (e :: es) = true) :
    (need e = true → p = true) ∧
    ∃ q, flagOk set need clear q es = true ∧ (q = true → p = true ∧ clear e = false) := by
  rw [flagOk, hs, if_neg Bool.false_ne_true] at h
  cases hn : need e <;> cases hc : clear e <;> simp only [hn, hc, Bool.false_eq_true, if_false, if_true, Bool.and_eq_true] at h
  · exact ⟨nofun, p, h, fun hp => ⟨hp, rfl⟩⟩
  · exact ⟨nofun, false, h, nofun⟩
  · exact ⟨fun _ => h.1, _, h.2, fun _ => ⟨h.1, rfl⟩⟩
  · exact ⟨fun _ => h.1, _, h.2, nofun⟩

/-- acceptance: a call that needs the flag comes after one that raised it with nothing lowering it in between (or the
    flag was up at the start and nothing lowered it) -/
theorem flagOk_sound {set need clear : Ev → Bool} (hns : ∀ e, need e = true → set e = false) :
    ∀ (es : List Ev) (p : Bool), flagOk set need clear p es = true →
    ∀ pre e post, es = pre ++ e :: post → need e = true →
      (∃ a x b, pre = a ++ x :: b ∧ set x = true ∧ ∀ y ∈ b, clear y = false)
      ∨ (p = true ∧ ∀ y ∈ pre, clear y = false)
  | [], _, _, pre, _, _, h, _ => by cases pre <;> cases h
  | e0 :: es, p, hok, [], e, post, hsplit, hneed => by
    cases hsplit
    exact Or.inr ⟨(flagOk_cons (hns _ hneed) hok).1 hneed, nofun⟩
  | e0 :: es, p, hok, q0 :: pre', e, post, hsplit, hneed => by
    obtain ⟨rfl, rfl⟩ := List.cons.inj hsplit
    cases hs : set e0 with
    | true =>
      rw [flagOk, hs, if_pos rfl] at hok
      rcases flagOk_sound hns _ true hok pre' e post rfl hneed with ⟨a, x, b, rfl, hx, hb⟩ | ⟨_, hb⟩
      · exact Or.inl ⟨e0 :: a, x, b, rfl, hx, hb⟩
      · exact Or.inl ⟨[], e0, pre', rfl, hs, hb⟩
    | false =>
      obtain ⟨_, q, hq, hqp⟩ := flagOk_cons hs hok
      rcases flagOk_sound hns _ q hq pre' e post rfl hneed with ⟨a, x, b, rfl, hx, hb⟩ | ⟨hq1, hb⟩
      · exact Or.inl ⟨e0 :: a, x, b, rfl, hx, hb⟩
      · exact Or.inr ⟨(hqp hq1).1, List.forall_mem_cons.2 ⟨(hqp hq1).2, hb⟩⟩

theorem pathOk_eq_flagOk : ∀ (p : Bool) (es : List Ev), pathOk p es = flagOk Ev.isPath Ev.isConsume Ev.isConsume p es
  | _, [] => rfl
  | p, e :: es => by
    rw [pathOk, flagOk, pathOk_eq_flagOk true es, pathOk_eq_flagOk false es, pathOk_eq_flagOk p es]
    cases e.isConsume <;> rfl

theorem curOk_eq_flagOk : ∀ (p : Bool) (es : List Ev), curOk p es = flagOk Ev.isStart Ev.needsCur Ev.isConsume p es
  | _, [] => rfl
  | p, e :: es => by
    rw [curOk, flagOk, curOk_eq_flagOk true es, curOk_eq_flagOk false es, curOk_eq_flagOk p es]
    cases hn : e.needsCur
    · rfl
    · rw [Ev.needsCur_not_consume hn]; rfl

theorem pathOk_sound (es : List Ev) (p : Bool) (h : pathOk p es = true) :
    ∀ pre e post, es = pre ++ e :: post → e.isConsume = true →
      (∃ a x b, pre = a ++ x :: b ∧ x.isPath = true ∧ ∀ y ∈ b, y.isConsume = false)
      ∨ (p = true ∧ ∀ y ∈ pre, y.isConsume = false) :=
  flagOk_sound (fun _ => Ev.isConsume_not_path) es p (pathOk_eq_flagOk p es ▸ h)

theorem curOk_sound (es : List Ev) (p : Bool) (h : curOk p es = true) :
    ∀ pre e post, es = pre ++ e :: post → e.needsCur = true →
      (∃ a x b, pre = a ++ x :: b ∧ x.isStart = true ∧ ∀ y ∈ b, y.isConsume = false)
      ∨ (p = true ∧ ∀ y ∈ pre, y.isConsume = false) :=
  flagOk_sound (fun _ => Ev.needsCur_not_start) es p (curOk_eq_flagOk p es ▸ h)

theorem Ev.save_not_restore {e : Ev} (h : e.isSave = true) : e.isRestore = false := by
  cases e <;> simp_all [Ev.isSave, Ev.isRestore]

theorem stackOk_cons {d : Nat} {q : Ev} {es : List Ev} (h : stackOk d (q :: es) = true) :
    ∃ d', stackOk d' es = true ∧ d' + (if q.isRestore then 1 else 0) = d + (if q.isSave then 1 else 0) := by
  cases hs : q.isSave with
  | true => exact ⟨d + 1, by simpa [stackOk, hs] using h, by simp [Ev.save_not_restore hs]⟩
  | false =>
    cases hr : q.isRestore with
    | false => exact ⟨d, by simpa [stackOk, hs, hr] using h, by simp⟩
    | true =>
      cases d with
      | zero => simp [stackOk, hs, hr] at h
      | succ d' => exact ⟨d', by simpa [stackOk, hs, hr] using h, by simp⟩

theorem stackOk_sound : ∀ (es : List Ev) (d : Nat), stackOk d es = true →
    (∀ pre post, es = pre ++ post → pre.countP Ev.isRestore ≤ d + pre.countP Ev.isSave)
    ∧ es.countP Ev.isRestore = d + es.countP Ev.isSave
  | [], d, h => by
    have hd : d = 0 := by simpa [stackOk] using h
    refine ⟨fun pre post hsplit => ?_, by simp [hd]⟩
    rw [(List.append_eq_nil_iff.1 hsplit.symm).1]
    exact Nat.zero_le _
  | q :: es, d, h => by
    obtain ⟨d', h', hd⟩ := stackOk_cons h
    obtain ⟨ihp, iht⟩ := stackOk_sound es d' h'
    refine ⟨fun pre post hsplit => ?_, ?_⟩
    · cases pre with
      | nil => exact Nat.zero_le _
      | cons a pre' =>
        obtain ⟨rfl, rfl⟩ := List.cons.inj hsplit
        have := ihp pre' post rfl
        rw [List.countP_cons, List.countP_cons]
        omega
    · rw [List.countP_cons, List.countP_cons]
      omega

/-! ## the diagnosis listings are empty exactly when the automata accept -/

theorem pathViol_nil : ∀ (es : List Ev) (p : Bool) (i : Nat), pathViol p i es = [] ↔ pathOk p es = true := by
  intro es
  induction es with
  | nil => intro p i; simp [pathViol, pathOk]
  | cons q es ih =>
    intro p i
    by_cases h1 : q.isPath = true
    · simp [pathViol, pathOk, h1, ih]
    · have h1' : q.isPath = false := by simpa using h1
      by_cases h2 : q.isConsume = true
      · cases p <;> simp [pathViol, pathOk, h1', h2, ih]
      · have h2' : q.isConsume = false := by simpa using h2
        simp [pathViol, pathOk, h1', h2', ih]

theorem curViol_nil : ∀ (es : List Ev) (p : Bool) (i : Nat), curViol p i es = [] ↔ curOk p es = true := by
  intro es
  induction es with
  | nil => intro p i; simp [curViol, curOk]
  | cons q es ih =>
    intro p i
    by_cases h1 : q.isStart = true
    · simp [curViol, curOk, h1, ih]
    · have h1' : q.isStart = false := by simpa using h1
      by_cases h2 : q.needsCur = true
      · cases p <;> simp [curViol, curOk, h1', h2, ih]
      · have h2' : q.needsCur = false := by simpa using h2
        by_cases h3 : q.isConsume = true
        · simp [curViol, curOk, h1', h2', h3, ih]
        · have h3' : q.isConsume = false := by simpa using h3
          simp [curViol, curOk, h1', h2', h3', ih]

theorem stackViol_none : ∀ (es : List Ev) (d i : Nat), stackViol d i es = none ↔ stackOk d es = true := by
  intro es
  induction es with
  | nil => intro d i; simp [stackViol, stackOk]
  | cons q es ih =>
    intro d i
    by_cases h1 : q.isSave = true
    · simp [stackViol, stackOk, h1, ih]
    · have h1' : q.isSave = false := by simpa using h1
      by_cases h2 : q.isRestore = true
      · cases d <;> simp [stackViol, stackOk, h1', h2, ih]
      · have h2' : q.isRestore = false := by simpa using h2
        simp [stackViol, stackOk, h1', h2', ih]

/-! ## global automaton: fonts -/

/-- the font table after one call -/
def fontsAfter (roots fonts : List (Nat × Nat)) : Ev → List (Nat × Nat)
  | .addFont c f => match lookup c roots with
    | some r => (r, f) :: fonts
    | none => fonts
  | _ => fonts

theorem globalOk_cons {roots fonts : List (Nat × Nat)} {e : Ev} {es : List Ev} (h : globalOk roots fonts (e :: es) = true) :
    globalOk (rootsAfter roots [e]) (fontsAfter roots fonts e) es = true := by
  cases e with
  | newGroup c g | addFont c f | drawText c fs =>
    simp only [globalOk] at h
    cases hl : lookup c roots <;> simp_all [rootsAfter, fontsAfter]
  | _ => simp_all [globalOk, rootsAfter, fontsAfter, Ev.canvas]

theorem mem_fontsAfter {roots fonts : List (Nat × Nat)} {e : Ev} {r f : Nat} (h : (r, f) ∈ fontsAfter roots fonts e) :
    (r, f) ∈ fonts ∨ ∃ c, e = .addFont c f ∧ lookup c roots = some r := by
  cases e with
  | addFont c f' =>
    rw [fontsAfter] at h
    cases hl : lookup c roots with
    | none => rw [hl] at h; exact Or.inl h
    | some r' =>
      rw [hl] at h
      rcases List.mem_cons.1 h with h | h
      · cases h; exact Or.inr ⟨c, rfl, hl⟩
      · exact Or.inl h
  | _ => exact Or.inl h

theorem rootsAfter_cons (roots : List (Nat × Nat)) (e : Ev) (es : List Ev) :
    rootsAfter roots (e :: es) = rootsAfter (rootsAfter roots [e]) es := by
  cases e <;> try rfl
  case newGroup c g => rw [rootsAfter, rootsAfter]; cases lookup c roots <;> rfl

theorem globalOk_fonts : ∀ (es : List Ev) (roots fonts : List (Nat × Nat)), globalOk roots fonts es = true →
    ∀ pre c fs post, es = pre ++ Ev.drawText c fs :: post → ∀ f ∈ fs,
      ∃ r, lookup c (rootsAfter roots pre) = some r ∧
        ((r, f) ∈ fonts ∨ ∃ a c' b, pre = a ++ Ev.addFont c' f :: b ∧ lookup c' (rootsAfter roots a) = some r)
  | [], _, _, _, pre, _, _, _, h, _, _ => by cases pre <;> cases h
  | _ :: _, roots, fonts, hok, [], c, fs, post, hsplit, f, hf => by
    cases hsplit
    rw [globalOk] at hok
    cases hl : lookup c roots with
    | none => simp [hl] at hok
    | some r =>
      simp only [hl, Bool.and_eq_true, List.all_eq_true] at hok
      exact ⟨r, hl, Or.inl (by simpa using hok.1 f hf)⟩
  | e0 :: _, roots, fonts, hok, _ :: pre', c, fs, post, hsplit, f, hf => by
    obtain ⟨rfl, rfl⟩ := List.cons.inj hsplit
    obtain ⟨r, h1, h2⟩ := globalOk_fonts _ _ _ (globalOk_cons hok) pre' c fs post rfl f hf
    refine ⟨r, by rw [rootsAfter_cons]; exact h1, ?_⟩
    rcases h2 with h2 | ⟨a, c', b, rfl, h3⟩
    · rcases mem_fontsAfter h2 with h2 | ⟨c0, rfl, hl⟩
      · exact Or.inl h2
      · exact Or.inr ⟨[], c0, pre', rfl, hl⟩
    · exact Or.inr ⟨e0 :: a, c', b, rfl, by rw [rootsAfter_cons]; exact h3⟩

theorem accepts_canvas {n : Nat} {evs : List Ev} (h : accepts n evs = true) {c : Nat} (hc : c ∈ created evs) :
    pathOk false (onCanvas c evs) = true ∧ curOk false (onCanvas c evs) = true ∧ stackOk 0 (onCanvas c evs) = true := by
  simp only [accepts, Bool.and_eq_true, List.all_eq_true, canvasOk] at h
  exact ⟨(h.2 c hc).1.1, (h.2 c hc).1.2, (h.2 c hc).2⟩

/-! ## the document-level protocol -/

theorem phaseOk_after : ∀ (evs : List DocEv), phaseOk true evs = true →
    DocEv.createAnchors ∉ evs ∧ ∀ y ∈ evs, y.isPage = false := by
  intro evs
  induction evs with
  | nil => intro _; simp
  | cons e es ih =>
    intro h
    by_cases h1 : e = .createAnchors
    · simp [phaseOk, h1] at h
    · by_cases h2 : e.isPage = true
      · simp [phaseOk, h1, h2] at h
      · have h2' : e.isPage = false := by simpa using h2
        simp only [phaseOk, h1, h2', if_false] at h
        obtain ⟨a, b⟩ := ih (by simpa using h)
        refine ⟨?_, ?_⟩
        · intro hm
          simp only [List.mem_cons] at hm
          rcases hm with hm | hm
          · exact h1 hm.symm
          · exact a hm
        · intro y hy
          simp only [List.mem_cons] at hy
          rcases hy with rfl | hy
          · exact h2'
          · exact b y hy

theorem phaseOk_sound : ∀ (evs : List DocEv), phaseOk false evs = true →
    ∃ pre post, evs = pre ++ DocEv.createAnchors :: post ∧ DocEv.createAnchors ∉ pre ∧ DocEv.createAnchors ∉ post
      ∧ ∀ y ∈ post, y.isPage = false := by
  intro evs
  induction evs with
  | nil => intro h; simp [phaseOk] at h
  | cons e es ih =>
    intro h
    by_cases h1 : e = .createAnchors
    · subst h1
      simp [phaseOk] at h
      obtain ⟨a, b⟩ := phaseOk_after es h
      exact ⟨[], es, by simp, by simp, a, b⟩
    · have hstep : phaseOk false es = true := by
        by_cases h2 : e.isPage = true
        · simpa [phaseOk, h1, h2] using h
        · have h2' : e.isPage = false := by simpa using h2
          simpa [phaseOk, h1, h2'] using h
      obtain ⟨pre, post, rfl, a, b, c⟩ := ih hstep
      refine ⟨e :: pre, post, by simp, ?_, b, c⟩
      intro hm
      simp only [List.mem_cons] at hm
      rcases hm with hm | hm
      · exact h1 hm.symm
      · exact a hm

/-! ## groups are sealed when handed over -/

theorem Ev.isUseOf_not_stack {g : Nat} {e : Ev} (h : e.isUseOf g = true) : e.isSave = false ∧ e.isRestore = false := by
  cases e <;> simp_all [Ev.isUseOf, Ev.isSave, Ev.isRestore]

theorem sealOk_cons {g s r : Nat} {used : Bool} {q : Ev} {es : List Ev} (h : sealOk g s r used (q :: es) = true) :
    sealOk g (s + (onCanvas g [q]).countP Ev.isSave) (r + (onCanvas g [q]).countP Ev.isRestore)
      (used || q.isUseOf g) es = true
    ∧ (q.isUseOf g = true → s = r) ∧ (used = true → q.canvas = some g → q.isUseOf g = true) := by
  rw [sealOk] at h
  have hcnt : ∀ p : Ev → Bool, (onCanvas g [q]).countP p = if q.canvas == some g then (if p q then 1 else 0) else 0 := by
    intro p
    rw [onCanvas, List.filter_cons]
    split <;> simp [List.countP_cons]
  rw [hcnt, hcnt]
  cases hq : q.isUseOf g with
  | true =>
    obtain ⟨hs, hr⟩ := Ev.isUseOf_not_stack hq
    simp only [hq, if_true, Bool.and_eq_true, beq_iff_eq] at h
    exact ⟨by simpa [hs, hr] using h.2, fun _ => h.1, fun _ _ => rfl⟩
  | false =>
    cases hc : (q.canvas == some g) with
    | true =>
      have hc' : q.canvas = some g := by simpa using hc
      simp only [hq, hc, Bool.false_eq_true, if_false, if_true, Bool.and_eq_true, Bool.not_eq_true'] at h
      refine ⟨?_, nofun, fun hu _ => by simp [hu] at h⟩
      obtain ⟨rfl, h⟩ := h
      cases hs : q.isSave <;> cases hr : q.isRestore <;> simpa [hs, hr] using h
    | false =>
      have hc' : q.canvas ≠ some g := by simpa using hc
      simp only [hq, hc, Bool.false_eq_true, if_false] at h
      exact ⟨by simpa using h, nofun, fun _ h' => absurd h' hc'⟩

theorem sealOk_used {g : Nat} : ∀ {es : List Ev} {s r : Nat}, sealOk g s r true es = true →
    ∀ y ∈ es, y.canvas = some g → y.isUseOf g = true
  | q :: es, s, r, h, y, hy, hc => by
    obtain ⟨h1, -, h3⟩ := sealOk_cons h
    rcases List.mem_cons.1 hy with rfl | hy
    · exact h3 rfl hc
    · exact sealOk_used h1 y hy hc

theorem sealOk_sound (g : Nat) {e : Ev} {post : List Ev} (he : e.isUseOf g = true) :
    ∀ (pre : List Ev) (s r : Nat) (used : Bool), sealOk g s r used (pre ++ e :: post) = true →
      s + (onCanvas g pre).countP Ev.isSave = r + (onCanvas g pre).countP Ev.isRestore
      ∧ ∀ y ∈ post, y.canvas = some g → y.isUseOf g = true
  | [], s, r, used, h => by
    obtain ⟨h1, h2, -⟩ := sealOk_cons h
    rw [he, Bool.or_true] at h1
    exact ⟨h2 he, sealOk_used h1⟩
  | q :: pre, s, r, used, h => by
    obtain ⟨h1, -, -⟩ := sealOk_cons h
    obtain ⟨h2, h3⟩ := sealOk_sound g he pre _ _ _ h1
    refine ⟨?_, h3⟩
    have : onCanvas g (q :: pre) = onCanvas g [q] ++ onCanvas g pre := List.filter_append (l₁ := [q]) ..
    rw [this, List.countP_append, List.countP_append]
    omega

theorem sealViol_none (g : Nat) : ∀ (evs : List Ev) (s r : Nat) (used : Bool) (i : Nat),
    sealViol g s r used i evs = none ↔ sealOk g s r used evs = true := by
  intro evs
  induction evs with
  | nil => intro s r used i; simp [sealViol, sealOk]
  | cons q es ih =>
    intro s r used i
    by_cases hq : q.isUseOf g = true
    · by_cases hsr : s = r
      · simp [sealViol, sealOk, hq, hsr, ih]
      · simp [sealViol, sealOk, hq, hsr]
    · have hq' : q.isUseOf g = false := by simpa using hq
      by_cases hc : (q.canvas == some g) = true
      · cases used <;> simp [sealViol, sealOk, hq', hc, ih]
      · have hc' : (q.canvas == some g) = false := by simpa using hc
        simp [sealViol, sealOk, hq', hc', ih]

end WR.C14
