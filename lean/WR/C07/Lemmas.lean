/- C07 — facts about the auxiliary functions of the parsers (digit strings, splitting, `skipWs`) -/
import WR.C07.Spec
namespace WR.C07

theorem wellEscaped_cons_ne (c : Nat) (cs : List Nat) (h : c ≠ 37) :
    wellEscaped (c :: cs) = (decide (c < 128) && wellEscaped cs) := by
  rcases cs with _ | ⟨a, _ | ⟨b, r⟩⟩ <;> simp [wellEscaped, h]

theorem foldlM_digits_isSome (cs : List Nat) (acc : Nat) :
    (cs.foldlM (fun acc c => if isDigit c then some (acc * 10 + (c - 48)) else none) acc).isSome =
      cs.all isDigit := by
  induction cs generalizing acc with
  | nil => rfl
  | cons c cs ih =>
    rw [List.foldlM_cons, List.all_cons]
    cases isDigit c
    · rfl
    · exact ih _

theorem digitsVal_isSome (s : List Nat) : (digitsVal s).isSome = allDigits s := by
  cases s with
  | nil => rfl
  | cons c cs => exact foldlM_digits_isSome (c :: cs) 0

theorem digitsVal_none_iff (s : List Nat) : digitsVal s = none ↔ allDigits s = false := by
  rw [← digitsVal_isSome, Option.isSome_eq_false_iff, Option.isNone_iff_eq_none]

theorem splitFirst_none_iff (sep : Nat) (s : List Nat) : splitFirst sep s = none ↔ sep ∉ s := by
  induction s with
  | nil => simp [splitFirst]
  | cons c cs ih =>
    simp only [splitFirst]
    by_cases h : c = sep
    · simp [h]
    · have h' : ¬ sep = c := fun e => h e.symm
      simp [h, h', ih]

theorem splitFirst_some (sep : Nat) (s a b : List Nat) (h : splitFirst sep s = some (a, b)) :
    s = a ++ sep :: b ∧ sep ∉ a := by
  induction s generalizing a with
  | nil => simp [splitFirst] at h
  | cons c cs ih =>
    simp only [splitFirst] at h
    by_cases hc : c = sep
    · simp [hc] at h; obtain ⟨ha, hb⟩ := h; subst ha hb; simp [hc]
    · simp only [hc, if_false, Option.map_eq_some_iff] at h
      obtain ⟨⟨a', b'⟩, h1, h2⟩ := h
      simp only [Prod.mk.injEq] at h2
      obtain ⟨ha, hb⟩ := h2
      subst ha hb
      obtain ⟨hs, hn⟩ := ih a' h1
      have hc' : ¬ sep = c := fun e => hc e.symm
      exact ⟨by simp [← hs], by simp [hn, hc']⟩

theorem splitAll_go_ne_nil (sep : Nat) (s cur : List Nat) : splitAll.go sep s cur ≠ [] := by
  induction s generalizing cur with
  | nil => simp [splitAll.go]
  | cons c cs ih => simp only [splitAll.go]; split <;> simp [ih]

/-! A token that fits none of the parsers' patterns survives `skipWs` and every pattern the parsers
consume, so it reaches `parseEnd`, which accepts only the empty rest. -/

/-- the tokens no pattern of the An+B parsers fits (integer numbers and dimensions do, others do not) -/
def foreign : Tok → Bool
  | .other | .number false _ _ | .dimension false _ _ => true
  | _ => false

theorem any_foreign_skipWs (ts : List Tok) : (skipWs ts).any foreign = ts.any foreign := by
  fun_induction skipWs ts with
  | case1 ts ih => simpa [foreign] using ih
  | case2 ts _ => rfl

theorem parseEnd_foreign (ts : List Tok) (a b : Int) (h : ts.any foreign = true) : parseEnd ts a b = none := by
  rw [← any_foreign_skipWs] at h
  fun_cases parseEnd ts a b <;> simp_all only [List.any_nil, Bool.false_eq_true]

theorem parseSignlessB_foreign (ts : List Tok) (a s : Int) (h : ts.any foreign = true) :
    parseSignlessB ts a s = none := by
  rw [← any_foreign_skipWs] at h
  fun_cases parseSignlessB ts a s <;> simp_all only [List.any_cons, foreign, Bool.false_or, parseEnd_foreign]

theorem parseB_foreign (ts : List Tok) (a : Int) (h : ts.any foreign = true) : parseB ts a = none := by
  rw [← any_foreign_skipWs] at h
  fun_cases parseB ts a <;>
    simp_all only [List.any_nil, Bool.false_eq_true, List.any_cons, foreign, Bool.false_or, parseEnd_foreign,
      parseSignlessB_foreign]

theorem parseNth_foreign (ts : List Tok) (h : ts.any foreign = true) : parseNth ts = none := by
  rw [← any_foreign_skipWs] at h
  fun_cases parseNth ts <;>
    simp_all only [List.any_cons, foreign, Bool.false_or, parseEnd_foreign, parseSignlessB_foreign, parseB_foreign]

end WR.C07
