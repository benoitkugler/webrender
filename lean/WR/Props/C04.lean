/-
  C04 — property theorems.  All are about the definitions the driver executes (`computed`, `get`, `run` of
  WR/C04/Model.lean); those stated for an arbitrary `Table` hold in particular for the table regenerated from
  the code (`WR.Gen.C04Tables.table`, see `gen_table_wf`); the `gen_*` theorems are re-checked on the
  regenerated tables every run.
-/
import WR.C04.Lemmas
import WR.C04.LemmasLengths
import WR.C04.RefTable
namespace WR.Props.C04
open WR.C04

/-! ## lazily computed and cached = the pure definition, for every order of calls -/

def Inv (T : Table) (st : State) : Prop := ∀ s, Good T st s

theorem inv_fresh (T : Table) : Inv T (State.fresh T) := by
  intro s p v h
  unfold State.fresh at h
  match s, h with
  | n :: m :: rest, h =>
    simp only at h
    split at h
    · rename_i hc
      cases h
      simp [computed, nodePure, anonPure, hc.1, hc.2]
    · cases h

/-- one call: whatever was read before (any state reachable or not that satisfies the invariant),
    `Get` returns the pure computed value and keeps the invariant -/
theorem get_step (T : Table) (hT : T.WF) (c : List Node) (p : Nat) (st : State) (h : Inv T st) :
    (get T c st p).2 = computed T c p ∧ Inv T (get T c st p).1 := by
  obtain ⟨e, i, f⟩ := get_ok hT c p st (fun s _ => h s)
  refine ⟨e, fun s => ?_⟩
  by_cases hs : s <:+ c
  · exact i s hs
  · exact (h s).of_eq (f s hs)

/-- **get_cache_transparent** — for every sequence of `Get` calls, on any styles of any tree, in any
    order, starting from any state of the caches that satisfies the invariant, every call returns
    the pure `computed` value of its (position, property). -/
theorem get_cache_transparent_from (T : Table) (hT : T.WF) (reqs : List (List Node × Nat))
    (st : State) (h : Inv T st) :
    (run T st reqs).2 = reqs.map (fun r => computed T r.1 r.2) ∧ Inv T (run T st reqs).1 := by
  induction reqs generalizing st with
  | nil => exact ⟨rfl, h⟩
  | cons r reqs ih =>
    obtain ⟨c, p⟩ := r
    obtain ⟨e, i⟩ := get_step T hT c p st h
    obtain ⟨e2, i2⟩ := ih _ i
    simp only [run, List.map_cons]
    exact ⟨by rw [e, e2], i2⟩

/-- … in particular from freshly created styles (empty caches + the entries newAnonymousStyle pre-sets) -/
theorem get_cache_transparent (T : Table) (hT : T.WF) (reqs : List (List Node × Nat)) :
    (run T (State.fresh T) reqs).2 = reqs.map (fun r => computed T r.1 r.2) :=
  (get_cache_transparent_from T hT reqs _ (inv_fresh T)).1

/-- access-order independence: the value of a `Get` does not depend on what was read before -/
theorem get_order_independent (T : Table) (hT : T.WF) (pre₁ pre₂ : List (List Node × Nat))
    (c : List Node) (p : Nat) :
    (get T c (run T (State.fresh T) pre₁).1 p).2 = (get T c (run T (State.fresh T) pre₂).1 p).2 := by
  rw [(get_step T hT c p _ (get_cache_transparent_from T hT pre₁ _ (inv_fresh T)).2).1,
      (get_step T hT c p _ (get_cache_transparent_from T hT pre₂ _ (inv_fresh T)).2).1]

/-- the regenerated table satisfies the hypotheses of the theorems above: font-size is computed by
    `fontSize`, and every property computed by `borderWidth` is preceded by a computer-less one
    (`name - 1` in computed_values.go), whose name is the matching `…-style` -/
theorem gen_table_wf : WR.Gen.C04Tables.table.WF where
  fontSize_ck := by decide +kernel
  borderStyle_ck := by
    intro p h
    -- checked row by row, each row paired with its position: going through the indices instead
    -- costs the kernel two array lookups per index
    have hall : (WR.Gen.C04Tables.rows.toList.zipIdx.all fun x =>
        x.1.ck != .borderWidth || WR.Gen.C04Tables.table.ck (x.2 - 1) == .none) = true := by
      decide +kernel
    cases hr : WR.Gen.C04Tables.row p with
    | none => simp [WR.Gen.C04Tables.table, hr] at h
    | some r =>
      have hmem : (r, p) ∈ WR.Gen.C04Tables.rows.toList.zipIdx :=
        List.mem_zipIdx_iff_getElem?.mpr (by simpa [WR.Gen.C04Tables.row] using hr)
      have hck : r.ck = .borderWidth := by simpa [WR.Gen.C04Tables.table, hr] using h
      simpa [hck] using List.all_eq_true.mp hall _ hmem

/-- the properties computed by `borderWidth`, each with the property just before it (whose value
    `borderWidth` reads as the border style) -/
theorem gen_borderWidth_reads_its_style :
    ((WR.Gen.C04Tables.rows.toList.filter (fun r => r.ck == .borderWidth)).map
      (fun r => (r.name, (WR.Gen.C04Tables.row (r.idx - 1)).map (·.name)))) =
    [("border-bottom-width", some "border-bottom-style"), ("border-left-width", some "border-left-style"),
     ("border-right-width", some "border-right-style"), ("border-top-width", some "border-top-style"),
     ("column-rule-width", some "column-rule-style"), ("outline-width", some "outline-style")] := by
  decide +kernel

/-! ## the code's tables against the hand-written reference (WR/C04/SpecTable.lean) -/

/-- The sweeps below compare the same few hundred literals thousands of times: the kernel unfolds a `String`
    literal anew at every `==`, whereas it computes the byte list of a literal once and finds it again. -/
theorem beq_eq_beq_bytes (a b : String) :
    (a == b) = (a.toByteArray.data.toList == b.toByteArray.data.toList) := by
  rw [Bool.eq_iff_iff, beq_iff_eq, beq_iff_eq, Array.toList_inj, ← String.toByteArray_inj]
  exact ⟨fun h => by rw [h], fun h => ByteArray.ext h⟩

/-- **gen_inherited_matches_spec** — every property of the code is known to the reference, and its
    `Inherited` flag (css/properties/datas.go) equals the reference's, except for the properties the
    reference leaves unspecified (listed by `gen_inherited_unspecified`). -/
theorem gen_inherited_matches_spec :
    ((WR.Gen.C04Tables.rows.toList.drop 1).all fun r =>
      match specInheritedOf r.name with
      | some (some b) => r.inh == b
      | some none => true
      | none => false) = true := by
  simp only [specInheritedOf, beq_eq_beq_bytes]
  decide +kernel

/-- the properties excluded from `gen_inherited_matches_spec` -/
theorem gen_inherited_unspecified :
    (specInherited.filter (fun e => e.2.isNone)).map (·.1) =
      ["anchor", "block-ellipsis", "image-orientation", "lang", "link"] := by decide +kernel

/-- initial values of the reviewed subset: the code's initial value is the specification's -/
theorem gen_initial_matches_spec :
    (specInitial.all fun e =>
      match WR.Gen.C04Tables.rows.toList.find? (fun r => r.name == e.1) with
      | some r => r.init == e.2
      | none => false) = true := by
  simp only [beq_eq_beq_bytes]
  decide +kernel

/-- the table the driver runs the model with (reference `inherited` flags) satisfies the
    hypotheses of the theorems above, so they all apply to what the judge executes -/
theorem ref_table_wf : WR.C04.refTable.WF := by
  -- by `simp only`, not `rfl`: asked whether the two projections agree, the unifier first compares
  -- the two tables, and gets lost evaluating `refInherited`
  have h1 : WR.C04.refTable.ck = WR.Gen.C04Tables.table.ck := by simp only [refTable]
  have h2 : WR.C04.refTable.pFontSize = WR.Gen.C04Tables.table.pFontSize := by simp only [refTable]
  exact ⟨by rw [h1, h2]; exact gen_table_wf.fontSize_ck, by rw [h1]; exact gen_table_wf.borderStyle_ck⟩

/-- **computed_defaulting** (elements, pseudo-elements — parent = the element —, page contexts; every
    depth incl. the root element): outside the two propagated families (text-decoration-*, `page`)
    the computed value is: declared value ⇒ its computed form; `inherit` or (no declaration and
    inherited) ⇒ the parent's computed value, on the root element the initial value; `initial` or
    (no declaration and not inherited) ⇒ the initial value. -/
theorem computed_defaulting (T : Table) (n : Node) (rest : List Node) (p : Nat)
    (hn : n.anon = false ∨ rest = []) (htd : T.tdKind p = 0) (hpage : p ≠ T.pPage) :
    computed T (n :: rest) p = specValue T n rest p := by
  have hc : n.anon = false ∨ (ctxOf T rest).par = none := hn.imp_right fun h => by rw [h]; rfl
  rw [computed_cons, nodePure_comp hc, preValue, specialPure_none _ n _ htd hpage]
  -- both sides distinguish the same cases: the declaration, the two flags, root or not
  unfold specValue behaviour initialComputed rawValue effDecl
  cases declOf n p with
  | none => cases T.inherited p <;> cases T.initNotComputed p <;> cases rest <;> simp [ctxOf, rootCtx]
  | some d => cases d <;> cases T.initNotComputed p <;> cases rest <;> simp [ctxOf, rootCtx]

/-- **computed_defaulting**, anonymous boxes: inherited ⇒ the parent's computed value, else initial. -/
theorem computed_defaulting_anon (T : Table) (n : Node) (m : Node) (rest : List Node) (p : Nat)
    (hn : n.anon = true) (htd : T.tdKind p = 0) (hpage : p ≠ T.pPage) :
    computed T (n :: m :: rest) p = specAnon T (m :: rest) p := by
  rw [computed_cons, ctxOf, nodePure_anon hn]
  simp [anonPure, specAnon, htd, hpage]

/-- the first clause of **computed_defaulting** -/
theorem computed_declared (T : Table) (n : Node) (rest : List Node) (p : Nat) (v : Val)
    (hn : n.anon = false ∨ rest = []) (htd : T.tdKind p = 0) (hpage : p ≠ T.pPage)
    (hd : declOf n p = some (.value v)) :
    computed T (n :: rest) p = computePure T (ctxOf T rest) n p v := by
  simp only [computed_defaulting T n rest p hn htd hpage, specValue, behaviour, hd]

/-- `page` is not inherited, but `auto` takes the value used by the parent ("" on the root) -/
theorem computed_page_auto (T : Table) (n m : Node) (rest : List Node)
    (hn : n.anon = false) (htd : T.tdKind T.pPage = 0) (hck : T.ck T.pPage = .none)
    (hd : declOf n T.pPage = none) (hinh : T.inherited T.pPage = false)
    (hinit : T.initVal T.pPage = .kw "auto") :
    computed T (n :: m :: rest) T.pPage = computed T (m :: rest) T.pPage ∧
    computed T [n] T.pPage = .kw "" := by
  constructor
  · rw [computed_cons, nodePure_comp (.inl hn)]
    simp [ctxOf, preValue, specialPure, rawValue, effDecl, hd, hinh, htd, hinit, computePure, hck]
  · rw [computed_cons, nodePure_comp (.inr rfl)]
    simp [ctxOf, rootCtx, preValue, specialPure, rawValue, effDecl, hd, hinh, hinit, computePure, hck]

/-- text-decoration-line is propagated: own lines ∪ the parent's lines, for every depth -/
theorem computed_text_decoration_line (T : Table) (n m : Node) (rest : List Node) (p : Nat)
    (hn : n.anon = false) (htd : T.tdKind p = 1) (hck : T.ck p = .none) :
    computed T (n :: m :: rest) p =
      .union (rawValue T (ctxOf T (m :: rest)) n p).1 (computed T (m :: rest) p) := by
  rw [computed_cons, nodePure_comp (.inl hn)]
  simp [preValue, specialPure, htd, textDecoration, computePure, hck, ctxOf]

/-- the ratios used by `length_` are the exact CSS ratios 1in = 96px = 72pt = 6pc = 2.54cm = 25.4mm = 101.6q -/
theorem units_exact_ratios (u : Nat) (h : u ≠ uPx) : pxPer u = specPx u := by
  by_cases hu : u ∈ [uPt, uPc, uIn, uCm, uMm, uQ]
  · exact (by decide +kernel : ∀ v ∈ [uPt, uPc, uIn, uCm, uMm, uQ], pxPer v = specPx v) u hu
  · -- any other unit has no ratio on either side
    simp only [List.mem_cons, List.not_mem_nil, or_false, not_or] at hu
    simp [pxPer, specPx, h, hu]

/-- **units_exact** — absolute lengths: `x unit` computes to `x · (px per unit)` px, exactly -/
theorem units_exact (p : Nat) (n : Node) (x : Rat) (u : Nat) (r : Rat) (fs rfs : Val) (po : Bool)
    (hx : x ≠ 0) (hu : specPx u = some r) :
    lengthArith p n (.dim x u) fs rfs po = asPixels (x * r) po := by
  by_cases hpx : u = uPx
  · subst hpx
    simp [specPx] at hu; subst hu
    simp [lengthArith, hx]
  · rw [← units_exact_ratios u hpx] at hu
    simp [lengthArith, hx, hpx, hu]

/-- one inch is 96px is 72pt is 6pc is 2.54cm is 25.4mm is 101.6q -/
theorem units_one_inch (p : Nat) (n : Node) (fs rfs : Val) :
    lengthArith p n (.dim 1 uIn) fs rfs false = .dim 96 uPx ∧
    lengthArith p n (.dim 96 uPx) fs rfs false = .dim 96 uPx ∧
    lengthArith p n (.dim 72 uPt) fs rfs false = .dim 96 uPx ∧
    lengthArith p n (.dim 6 uPc) fs rfs false = .dim 96 uPx ∧
    lengthArith p n (.dim (254/100) uCm) fs rfs false = .dim 96 uPx ∧
    lengthArith p n (.dim (254/10) uMm) fs rfs false = .dim 96 uPx ∧
    lengthArith p n (.dim (1016/10) uQ) fs rfs false = .dim 96 uPx := by
  -- each is `units_exact` with the unit's ratio: x · ratio = 96
  have conv : ∀ x u r, x ≠ 0 → specPx u = some r → x * r = 96 →
      lengthArith p n (.dim x u) fs rfs false = .dim 96 uPx :=
    fun x u r hx hu h => by rw [units_exact p n x u r fs rfs false hx hu, h]; rfl
  exact ⟨conv 1 uIn 96 (by decide +kernel) rfl (by decide +kernel),
    conv 96 uPx 1 (by decide +kernel) rfl (by decide +kernel),
    conv 72 uPt (96 / 72) (by decide +kernel) rfl (by decide +kernel),
    conv 6 uPc (96 / 6) (by decide +kernel) rfl (by decide +kernel),
    conv (254/100) uCm (96 / (254/100)) (by decide +kernel) rfl (by decide +kernel),
    conv (254/10) uMm (96 / (254/10)) (by decide +kernel) rfl (by decide +kernel),
    conv (1016/10) uQ (96 / (1016/10)) (by decide +kernel) rfl (by decide +kernel)⟩

/-- em / ex / ch are relative to the element's own computed font size, rem to the root's -/
theorem units_font_relative (T : Table) (c : Ctx) (n : Node) (p : Nat) (x f : Rat) (uf : Nat)
    (hck : T.ck p = .length) (hx : x ≠ 0) (hfs : fontSizePure T c n = .dim f uf) :
    computePure T c n p (.dim x uEm) = .dim (x * f) uPx ∧
    computePure T c n p (.dim x uEx) = .dim (x * f * n.exR) uPx ∧
    computePure T c n p (.dim x uCh) = .dim (x * f * n.chR) uPx := by
  have hfs' : ∀ u, isFontRelative u = true → fsArg T c n (.dim x u) = .dim f uf :=
    fun u hu => by simp [fsArg, needsFS, hx, hu, hfs]
  simp only [computePure, hck, lengthPure, hfs' uEm rfl, hfs' uEx rfl, hfs' uCh rfl]
  have h := fun rfs => lengthArith_em_ex_ch p n x f (.dim f uf) rfs false hx rfl
  exact ⟨(h _).1, (h _).2.1, (h _).2.2⟩

/-- rem × the root element's computed font size; on the root element itself (no parent) that is the
    element's own computed font size -/
theorem units_rem (T : Table) (c : Ctx) (n : Node) (p : Nat) (x f : Rat) (uf : Nat)
    (hck : T.ck p = .length) (hx : x ≠ 0)
    (hr : (match c.par with | none => fontSizePure T c n | some _ => c.rootFS) = .dim f uf) :
    computePure T c n p (.dim x uRem) = .dim (x * f) uPx := by
  have h1 : rootArgL T c n (.dim x uRem) = .dim f uf := by
    simp only [rootArgL, needsRoot, hx, ne_eq, not_false_eq_true, decide_true, Bool.and_self, if_true]
    exact hr
  simp only [computePure, hck, lengthPure, h1]
  exact lengthArith_rem p n x f _ _ false hx rfl

/-- on `font-size` itself em and % refer to the PARENT's computed font size (the initial one on the
    root element), rem to the root's (the initial one on the root element itself: `rootCtx`) -/
theorem units_font_size (T : Table) (c : Ctx) (n : Node) (x f : Rat) (uf : Nat)
    (hck : T.ck T.pFontSize = .fontSize) (hx : x ≠ 0)
    (hp : (match c.par with | some g => g T.pFontSize | none => T.initVal T.pFontSize) = .dim f uf) :
    computePure T c n T.pFontSize (.dim x uEm) = .dim (x * f) uScalar ∧
    computePure T c n T.pFontSize (.dim x uPerc) = .dim (x * f / 100) uScalar ∧
    computePure T c n T.pFontSize (.dim x uEx) = .dim (x * f * n.exR) uScalar := by
  have h1 : ∀ u, pfsArg T c (.dim x u) = .dim f uf := by
    intro u; unfold pfsArg; simp only [fsNeedsParent, if_true]; exact hp
  have h := fun rfs => lengthArith_em_ex_ch T.pFontSize n x f (.dim f uf) rfs true hx rfl
  simp only [computePure, hck, h1, fontSizeArith]
  exact ⟨(h _).1, by simp [Val.num?], (h _).2.1⟩

/-- the float32 constants of pr.LengthsToPixels (regenerated) are within 2⁻²³ (relative) of the
    exact ratios -/
theorem gen_units_close : (WR.Gen.C04Tables.lengthsToPixels.all fun e =>
    match specPx e.1 with
    | some r => decide ((e.2 - r) * 8388608 ≤ r ∧ (r - e.2) * 8388608 ≤ r)
    | none => false) = true := by decide +kernel

/-- every absolute unit has a constant -/
theorem gen_units_complete : ∀ u ∈ [uPx, uPt, uPc, uIn, uCm, uMm, uQ],
    (WR.Gen.C04Tables.lengthsToPixels.any (·.1 == u)) = true := by decide +kernel

def weights : List Int := [100, 200, 300, 400, 500, 600, 700, 800, 900]

def validWeight (v : Val) : Prop := ∃ k : Int, v = .int k ∧ k ∈ weights

structure FontWeightTable (T : Table) : Prop where
  td : T.tdKind T.pFontWeight = 0
  page : T.pFontWeight ≠ T.pPage
  ck : T.ck T.pFontWeight = .fontWeight
  init : T.initVal T.pFontWeight = .int 400
  inc : T.initNotComputed T.pFontWeight = false
  inh : T.inherited T.pFontWeight = true
  seed : T.anonSeed T.pFontWeight = false
  tables : ∀ k ∈ weights, ∃ b l, T.bolder k = some b ∧ T.lighter k = some l ∧
    b ∈ weights ∧ l ∈ weights ∧ k ≤ b ∧ l ≤ k

/-- the regenerated bolder / lighter tables are total on the nine weights and stay inside them -/
theorem gen_fontWeight_tables_b : (weights.all fun k =>
    match WR.Gen.C04Tables.table.bolder k, WR.Gen.C04Tables.table.lighter k with
    | some b, some l => weights.contains b && weights.contains l && decide (k ≤ b) && decide (l ≤ k)
    | _, _ => false) = true := by decide +kernel

theorem gen_fontWeight_tables : ∀ k ∈ weights,
    ∃ b l, WR.Gen.C04Tables.table.bolder k = some b ∧ WR.Gen.C04Tables.table.lighter k = some l ∧
      b ∈ weights ∧ l ∈ weights ∧ k ≤ b ∧ l ≤ k := by
  intro k hk
  have h := List.all_eq_true.mp gen_fontWeight_tables_b k hk
  split at h
  · rename_i b l hb hl
    simp only [Bool.and_eq_true, decide_eq_true_eq, List.contains_iff_mem] at h
    exact ⟨b, l, hb, hl, h.1.1.1, h.1.1.2, h.1.2, h.2⟩
  · cases h

theorem gen_fontWeightTable : FontWeightTable WR.Gen.C04Tables.table where
  td := by decide +kernel
  page := by decide +kernel
  ck := by decide +kernel
  init := by decide +kernel
  inc := by decide +kernel
  inh := by decide +kernel
  seed := by decide +kernel
  tables := gen_fontWeight_tables

theorem fontWeightArith_valid {T : Table} (hT : FontWeightTable T) (n : Node) (v pw : Val)
    (hv : v = .kw "normal" ∨ v = .kw "bold" ∨ v = .kw "bolder" ∨ v = .kw "lighter" ∨ validWeight v)
    (hpw : fwNeedsParent v = true → validWeight pw) :
    validWeight (fontWeightArith T n v pw) := by
  rcases hv with rfl | rfl | rfl | rfl | ⟨k, rfl, hk⟩
  · exact ⟨400, by simp [fontWeightArith], by decide⟩
  · exact ⟨700, by simp [fontWeightArith], by decide⟩
  · obtain ⟨w, rfl, hw⟩ := hpw (by simp [fwNeedsParent])
    obtain ⟨b, l, hb, hl, hbw, hlw, _, _⟩ := hT.tables w hw
    exact ⟨b, by simp [fontWeightArith, mapGet, hb], hbw⟩
  · obtain ⟨w, rfl, hw⟩ := hpw (by simp [fwNeedsParent])
    obtain ⟨b, l, hb, hl, hbw, hlw, _, _⟩ := hT.tables w hw
    exact ⟨l, by simp [fontWeightArith, mapGet, hl], hlw⟩
  · exact ⟨k, by simp [fontWeightArith], hk⟩

/-- **fontWeight_total**, one step: the computer function is defined on every position incl. the
    root element (where bolder / lighter are relative to the initial weight): a valid declared
    value and a valid parent weight give a valid weight. -/
theorem fontWeight_step (n : Node) (v pw : Val)
    (hv : v = .kw "normal" ∨ v = .kw "bold" ∨ v = .kw "bolder" ∨ v = .kw "lighter" ∨ validWeight v)
    (hpw : fwNeedsParent v = true → validWeight pw) :
    validWeight (fontWeightArith WR.Gen.C04Tables.table n v pw) :=
  fontWeightArith_valid gen_fontWeightTable n v pw hv hpw

/-- on the root element `bolder` is relative to the initial 400: 700 -/
theorem fontWeight_root (n : Node) (hn : declOf n WR.Gen.C04Tables.pFontWeight = some (.value (.kw "bolder"))) :
    computed WR.Gen.C04Tables.table [n] WR.Gen.C04Tables.pFontWeight = .int 700 := by
  have hT := gen_fontWeightTable
  have h6 : mapGet WR.Gen.C04Tables.table.bolder 400 = 700 := by decide +kernel
  refine (computed_declared _ n [] _ _ (Or.inr rfl) hT.td hT.page hn).trans ?_
  simp [computePure, hT.ck, pwArg, fwNeedsParent, ctxOf, rootCtx, hT.init, fontWeightArith, h6]

/-- `fontWeight_total`, for any table with the properties above -/
theorem fontWeight_valid {T : Table} (hT : FontWeightTable T) (chain : List Node) (hne : chain ≠ [])
    (hdecl : ∀ n ∈ chain, ∀ v, declOf n T.pFontWeight = some (.value v) →
      v = .kw "normal" ∨ v = .kw "bold" ∨ v = .kw "bolder" ∨ v = .kw "lighter" ∨ validWeight v) :
    validWeight (computed T chain T.pFontWeight) := by
  have v400 : validWeight (T.initVal T.pFontWeight) := hT.init ▸ ⟨400, rfl, by decide⟩
  induction chain with
  | nil => exact (hne rfl).elim
  | cons n rest ih =>
    -- the weight that comes from above: the parent's, on the root element the initial one
    have hup : validWeight (match rest with
        | [] => T.initVal T.pFontWeight
        | _ :: _ => computed T rest T.pFontWeight) := by
      cases rest with
      | nil => exact v400
      | cons m r => exact ih (List.cons_ne_nil m r) fun k hk => hdecl k (List.mem_cons_of_mem _ hk)
    by_cases hcomp : n.anon = false ∨ rest = []
    · rw [computed_defaulting T n rest _ hcomp hT.td hT.page]
      unfold specValue behaviour initialComputed
      cases hd : declOf n T.pFontWeight with
      | none => simp only [hT.inh, hT.inc, if_true, Bool.false_eq_true, if_false]; cases rest <;> exact hup
      | some d =>
        cases d with
        | inherit => simp only [hT.inc, Bool.false_eq_true, if_false]; cases rest <;> exact hup
        | initial => simp only [hT.inc, Bool.false_eq_true, if_false]; exact v400
        | value v =>
          simp only [computePure, hT.ck]
          refine fontWeightArith_valid hT n v _ (hdecl n (List.mem_cons_self ..) v hd) fun hneed => ?_
          simp only [pwArg, hneed, if_true]
          cases rest <;> exact hup
    · -- an anonymous box below a parent inherits
      simp only [not_or, Bool.not_eq_false] at hcomp
      cases rest with
      | nil => exact (hcomp.2 rfl).elim
      | cons m r =>
        rw [computed_defaulting_anon T n m r _ hcomp.1 hT.td hT.page]
        simpa only [specAnon, hT.seed, hT.inh, if_true, Bool.false_eq_true, if_false] using hup

/-- **fontWeight_total** — for every tree position (any depth, root, pseudo-elements, anonymous
    boxes) whose chain only declares valid font-weight values, the computed font-weight is one of
    the nine weights. -/
theorem fontWeight_total (chain : List Node) (hne : chain ≠ [])
    (hdecl : ∀ n ∈ chain, ∀ v, declOf n WR.Gen.C04Tables.pFontWeight = some (.value v) →
      v = .kw "normal" ∨ v = .kw "bold" ∨ v = .kw "bolder" ∨ v = .kw "lighter" ∨ validWeight v) :
    validWeight (computed WR.Gen.C04Tables.table chain WR.Gen.C04Tables.pFontWeight) :=
  fontWeight_valid gen_fontWeightTable chain hne hdecl
/-! ## display (CSS 2.1 §9.7) -/

/-- the §9.7 table, value by value, for blockified boxes (root element, floats, absolutely positioned) -/
theorem specDisplay_table :
    (allDisplays.filter (fun d => specDisplay true d != d)).map (fun d => (d, specDisplay true d)) =
    [(("table-caption", "", ""), ("block", "flow", "")), (("table-row-group", "", ""), ("block", "flow", "")),
     (("table-cell", "", ""), ("block", "flow", "")), (("table-header-group", "", ""), ("block", "flow", "")),
     (("table-footer-group", "", ""), ("block", "flow", "")), (("table-row", "", ""), ("block", "flow", "")),
     (("table-column-group", "", ""), ("block", "flow", "")), (("table-column", "", ""), ("block", "flow", "")),
     (("inline", "flow", ""), ("block", "flow", "")), (("inline", "flow-root", ""), ("block", "flow", "")),
     (("inline", "table", ""), ("block", "table", "")), (("inline", "flex", ""), ("block", "flex", "")),
     (("inline", "grid", ""), ("block", "grid", "")),
     (("inline", "flow", "list-item"), ("block", "flow", "list-item")),
     (("inline", "flow-root", "list-item"), ("block", "flow", "list-item"))] := by decide +kernel

/-- a blockified box is block-level (or `none`), blockifying twice changes nothing, and nothing is
    adjusted elsewhere -/
theorem specDisplay_blockified : (allDisplays.all fun d =>
    ((specDisplay true d).1 == "block" || d.1 == "none") &&
    (specDisplay true (specDisplay true d) == specDisplay true d) &&
    (specDisplay false d == d)) = true := by decide +kernel

/-! ## the generic length traversal (all tuple / list / function valued length computers) -/

mutual
/-- after computing, no em / ex / ch / rem / pt / pc / in / cm / mm / q remains -/
theorem computed_is_absolute (c : FontCtx) : ∀ v, isAbsolute (computeLengths c v) = true
    | .len x u => by
      rcases computeLengths_len c x u with ⟨h, f, e⟩ | ⟨h, e⟩ <;> simp [e, isAbsolute, h]
    | .kw s => by simp [computeLengths, isAbsolute]
    | .node t cs => by simp [computeLengths, isAbsolute, computed_is_absoluteL c cs]
theorem computed_is_absoluteL (c : FontCtx) : ∀ vs, isAbsoluteL (computeLengthsL c vs) = true
    | .nil => by simp [computeLengthsL, isAbsoluteL]
    | .cons h t => by simp [computeLengthsL, isAbsoluteL, computed_is_absolute c h, computed_is_absoluteL c t]
end

theorem unitFactor_eq_spec (c : FontCtx) (u : Nat) : unitFactor c u = specFactor c u := by
  unfold unitFactor specFactor
  by_cases h : u = uPx
  · simp [h, specFactor.specPx']
  · rw [if_neg h, units_exact_ratios u h]; rfl

/-- each length is value × the factor CSS prescribes: the exact ratios, em / ex / ch × the element's own
    font size, rem × the root's -/
theorem computed_eq_spec (c : FontCtx) (x : Rat) (u : Nat) (f : Rat) (h : specFactor c u = some f) :
    computeLengths c (.len x u) = .len (x * f) uPx := by
  simp [computeLengths, unitFactor_eq_spec, h]

/-- percentages, numbers, angles are untouched -/
theorem computed_non_length (c : FontCtx) (x : Rat) (u : Nat) (h : isLengthUnit u = false) :
    computeLengths c (.len x u) = .len x u := by
  rcases computeLengths_len c x u with ⟨h', _⟩ | ⟨_, e⟩
  · rw [h] at h'; cases h'
  · exact e

mutual
/-- computing a computed value changes nothing -/
theorem computed_idempotent (c : FontCtx) : ∀ v, computeLengths c (computeLengths c v) = computeLengths c v
    | .len x u => by
      cases hf : unitFactor c u with
      | some f => simp only [computeLengths, hf, unitFactor_px, Rat.mul_one]
      | none => simp only [computeLengths, hf]
    | .kw s => by simp [computeLengths]
    | .node t cs => by simp [computeLengths, computed_idempotentL c cs]
theorem computed_idempotentL (c : FontCtx) : ∀ vs, computeLengthsL c (computeLengthsL c vs) = computeLengthsL c vs
    | .nil => by simp [computeLengthsL]
    | .cons h t => by simp [computeLengthsL, computed_idempotent c h, computed_idempotentL c t]
end

mutual
/-- the shape of the value (tags, keywords, arity, kinds of unit) is untouched -/
theorem computed_shape (c : FontCtx) : ∀ v, shape (computeLengths c v) = shape v
    | .len x u => by
      rcases computeLengths_len c x u with ⟨h, f, e⟩ | ⟨h, e⟩ <;> simp [e, shape, h]
    | .kw s => by simp [computeLengths, shape]
    | .node t cs => by simp [computeLengths, shape, computed_shapeL c cs]
theorem computed_shapeL (c : FontCtx) : ∀ vs, shapeL (computeLengthsL c vs) = shapeL vs
    | .nil => by simp [computeLengthsL, shapeL]
    | .cons h t => by simp [computeLengthsL, shapeL, computed_shape c h, computed_shapeL c t]
end

mutual
/-- a value without font-relative unit computes to the same value in every font context: what the
    shared-rule judge relies on -/
theorem computed_independent (c₁ c₂ : FontCtx) : ∀ v, fontFree v = true → computeLengths c₁ v = computeLengths c₂ v
    | .len x u, h => by
      simp only [fontFree, Bool.not_eq_true'] at h
      simp [computeLengths, unitFactor_fontFree c₁ c₂ u h]
    | .kw s, _ => by simp [computeLengths]
    | .node t cs, h => by
      simp only [fontFree] at h
      simp [computeLengths, computed_independentL c₁ c₂ cs h]
theorem computed_independentL (c₁ c₂ : FontCtx) : ∀ vs, fontFreeL vs = true → computeLengthsL c₁ vs = computeLengthsL c₂ vs
    | .nil, _ => by simp [computeLengthsL]
    | .cons a t, h => by
      simp only [fontFreeL, Bool.and_eq_true] at h
      simp [computeLengthsL, computed_independent c₁ c₂ a h.1, computed_independentL c₁ c₂ t h.2]
end

/-- the scalar `length_` of the model (WR/C04/Model.lean, used by `computed`) is the generic traversal
    on a single length -/
theorem lengthArith_generic (p : Nat) (n : Node) (x f rf : Rat) (u uf ur : Nat)
    (hx : x ≠ 0) (hu : isLengthUnit u = true) :
    ∃ y, computeLengths ⟨f, rf, n.exR, n.chR⟩ (.len x u) = .len y uPx ∧
      lengthArith p n (.dim x u) (.dim f uf) (.dim rf ur) false = .dim y uPx := by
  rw [lengthArith_dim p n x f rf u uf ur false hx, computeLengths]
  rw [← unitFactor_some_iff ⟨f, rf, n.exR, n.chR⟩, Option.isSome_iff_exists] at hu
  obtain ⟨k, hk⟩ := hu
  rw [hk]
  exact ⟨x * k, rfl, rfl⟩

/-- `transform: translate(2em, 10%) rotate(1rad)` at font size 10px -/
example : computeLengths ⟨10, 16, 1/2, 1/2⟩
    (.node "list" (.cons (.node "translate" (.cons (.len 2 uEm) (.cons (.len 10 uPerc) .nil)))
      (.cons (.node "rotate" (.cons (.len 1 14) .nil)) .nil)))
    = .node "list" (.cons (.node "translate" (.cons (.len 20 uPx) (.cons (.len 10 uPerc) .nil)))
      (.cons (.node "rotate" (.cons (.len 1 14) .nil)) .nil)) := by
  simp [computeLengths, computeLengthsL, unitFactor, pxPer, uEm, uPx, uPerc, uPt, uPc, uIn, uCm, uMm, uQ, uEx, uCh, uRem]
  grind

/-- a three-level chain (root with `font-size: 2em; font-weight: bolder`, a child with
    `margin-bottom: 3rem; font-size: 150%; line-height: inherit`, an anonymous box below) evaluates,
    with the regenerated tables, to the values CSS prescribes — through the cached `get`, in an
    order that reads children before parents -/
example :
    let root : Node := ⟨0, false, [(57, .value (.dim 2 uEm)), (66, .value (.kw "bolder"))], 1, 1⟩
    let child : Node := ⟨1, false, [(4, .value (.dim 3 uRem)), (57, .value (.dim 150 uPerc)), (36, .inherit)], 1, 1⟩
    let anon : Node := ⟨2, true, [], 1, 1⟩
    (run WR.Gen.C04Tables.table (State.fresh WR.Gen.C04Tables.table)
      [([anon, child, root], 57), ([child, root], 4), ([root], 66), ([anon, child, root], 3)]).2
      = [.dim 48 uScalar, .dim 96 uPx, .int 700, .dim 0 uNone] := by decide +kernel

example : WR.Gen.C04Tables.table.WF := gen_table_wf
example : validWeight (.int 400) := ⟨400, rfl, by decide⟩
example : specPx uCm = some (4800/127) := by decide +kernel

end WR.Props.C04
