/-
  C07 — property theorems: each modelled parser is a total function (by construction: Lean accepts
  no partial definition) and signals input outside its accepted language through its error value,
  never through a default.  Accepted languages are in WR/C07/Spec.lean, models (what the driver
  executes) in WR/C07/Model.lean.
-/
import WR.C07.Lemmas
namespace WR.Props.C07
open WR.C07

/-! ## integer attributes (colspan, rowspan, span: boxes_tree.go integerAttribute; strconv.Atoi) -/

/-- `error_signalled` for Atoi: anything that is not `[+-]?[0-9]+` is an error. -/
theorem atoi_error_signalled (s : List Nat) (h : wellFormedInt s = false) : atoi s = none := by
  unfold atoi
  unfold wellFormedInt at h
  split <;> simp_all [(digitsVal_none_iff _).2]

/-- conversely a result is only produced for well-formed input (no default value is invented) -/
theorem atoi_some_wellFormed (s : List Nat) (v : Int) (h : atoi s = some v) : wellFormedInt s = true := by
  cases hw : wellFormedInt s with
  | true => rfl
  | false => rw [atoi_error_signalled s hw] at h; cases h

/-- an unsigned digit string is accepted unless its value exceeds the 64-bit range -/
theorem atoi_accepts_digits (ds : List Nat) (h : allDigits ds = true) :
    (∃ v, atoi ds = some v) ∨ (∃ n, digitsVal ds = some n ∧ n > 9223372036854775807) := by
  cases hd : digitsVal ds with
  | none => rw [(digitsVal_none_iff ds).1 hd] at h; cases h
  | some n =>
    by_cases hn : n ≤ 9223372036854775807
    · left
      unfold atoi
      split
      · simp [allDigits, isDigit] at h
      · simp [allDigits, isDigit] at h
      · exact ⟨n, by simp [hd, hn]⟩
    · right; exact ⟨n, rfl, by omega⟩

/-- the attribute reader reports "invalid" exactly when Atoi fails on the trimmed text -/
theorem readIntAttr_invalid_iff (attr : List Nat) (m : Int) :
    readIntAttr attr m = .invalid ↔ atoi (trimSpace attr) = none := by
  unfold readIntAttr; split <;> simp_all

theorem readIntAttr_error_signalled (attr : List Nat) (m : Int) (h : wellFormedInt (trimSpace attr) = false) :
    readIntAttr attr m = .invalid :=
  (readIntAttr_invalid_iff attr m).2 (atoi_error_signalled _ h)

/-- a reported value respects the minimum (colspan ≥ 1, rowspan ≥ 0) -/
theorem readIntAttr_ge_min (attr : List Nat) (m v : Int) (h : readIntAttr attr m = .value v) : m ≤ v := by
  unfold readIntAttr at h
  split at h
  · cases h
  · simp only [IntAttr.value.injEq] at h; subst h; split <;> omega

/-- and so does what `integerAttribute` returns, its HTML default 1 included -/
theorem integerAttribute_ge_min (attr : List Nat) (m : Int) (hm : m ≤ 1) : m ≤ integerAttribute attr m := by
  unfold integerAttribute
  cases h : readIntAttr attr m with
  | invalid => exact hm
  | value v => exact readIntAttr_ge_min attr m v h

example : readIntAttr [32, 50, 32] 1 = .value 2 ∧ readIntAttr [50, 46, 53] 1 = .invalid ∧ readIntAttr [45, 51] 0 = .value 0 := by
  decide +kernel

/-! ## percent decoding and data: URIs (utils/urls.go) -/

/-- `error_signalled`: the decoder succeeds exactly on well-escaped ASCII; a `%` not followed by two
    hex digits, a truncated escape or a non-ASCII byte is an error, never passed through. -/
theorem unescape_ok_iff_wellEscaped (s : List Nat) : (∃ out, unescape s = .ok out) ↔ wellEscaped s = true := by
  fun_induction unescape s <;> simp_all [wellEscaped, wellEscaped_cons_ne] <;> omega

theorem unescape_error_signalled (s : List Nat) (h : wellEscaped s = false) : ∃ e, unescape s = .error e := by
  cases hu : unescape s with
  | error e => exact ⟨e, rfl⟩
  | ok out => have := (unescape_ok_iff_wellEscaped s).1 ⟨out, hu⟩; rw [h] at this; cases this

/-- `data:` without a comma is the error "data not found", and nothing else is -/
theorem parseDataURL_error_iff (s : List Nat) : parseDataURL s = none ↔ 44 ∉ s := by
  rw [← splitFirst_none_iff]
  unfold parseDataURL
  cases splitFirst 44 s with
  | none => exact iff_of_true rfl rfl
  | some p =>
    obtain ⟨props, payload⟩ := p
    simp only [reduceCtorEq, iff_false, splitAll]
    have := splitAll_go_ne_nil 59 props []
    split
    · contradiction
    · simp

example : (parseDataURL ("image/png;charset=x;base64,QUJD".toList.map Char.toNat)).map (fun d => (d.base64, d.payload.length)) = some (true, 4) := by
  decide +kernel
example : (match unescape ("a%41%2".toList.map Char.toNat) with | .error .truncated => true | _ => false) = true := by decide +kernel

/-! ## An+B (css/parser/nth.go) -/

/-- `error_signalled`: a token of any kind ParseNth does not know (`Tok.other`: string, hash, block,
    function, delimiter other than + and -) anywhere in the input gives `nil`; `parseNth_foreign` says
    the same of non-integer numbers and dimensions. -/
theorem parseNth_error_on_foreign_token (ts : List Tok) (h : Tok.other ∈ ts) : parseNth ts = none :=
  parseNth_foreign ts (List.any_eq_true.2 ⟨_, h, rfl⟩)

/-- trailing tokens after a complete An+B are rejected -/
theorem parseEnd_accepts_only_whitespace (ts : List Tok) (a b : Int) (r : Int × Int) (h : parseEnd ts a b = some r) :
    skipWs ts = [] ∧ r = (a, b) := by
  unfold parseEnd at h
  split at h
  · rename_i heq; exact ⟨heq, by simpa using h.symm⟩
  · cases h

theorem parseNth_empty : parseNth [] = none := rfl

example : parseNth [.dimension true 2 "n", .plus, .number true 1 false] = some (2, 1) := by decide +kernel
example : parseNth [.ws, .ident "odd", .ws] = some (2, 1) := by decide +kernel
example : parseNth [.ident "-n", .ws, .number true 3 true] = some (-1, 3) := by decide +kernel
example : parseNth [.plus, .ident "n"] = some (1, 0) := by decide +kernel
example : parseNth [.plus, .ws, .ident "n"] = none := by decide +kernel
example : parseNth [.ident "n-", .ws, .number true 1 false] = some (1, -1) := by decide +kernel
example : parseNth [.dimension true 3 "n-2"] = some (3, -2) := by decide +kernel
example : parseNth [.dimension true 2 "n", .number true 1 false] = none := by decide +kernel

/-! ## preserveAspectRatio (svg/parser.go) -/

/-- the current code never reaches the out-of-range slice of the code before 0871e31 (`parsePARBefore`) -/
theorem parsePAR_total (s : List Char) : ∃ r, parsePAR s = .ok r := by
  simp only [parsePAR]
  split <;> exact ⟨_, rfl⟩

/-- anything but an 8-character `xAAAYBBB` first word keeps the default alignment -/
theorem parsePAR_default (s : List Char) (h : (firstWord s).length ≠ 8) :
    ∃ n sl, parsePAR s = .ok { x := "min", y := "min", none_ := n, slice := sl } := by
  simp only [parsePAR]; simp [h]

/-- Record of the defect repaired in 0871e31: the former code panicked exactly when the first word was
    not "none" and shorter than 5 bytes (`preserveAspectRatio="x"`, `=""`, `="xMid"`); corpus cases. -/
theorem parsePARBefore_panics_iff (s : List Char) :
    (match parsePARBefore s with | .panic => True | .ok _ => False) ↔
      firstWord s ≠ "none".toList ∧ (firstWord s).length < 5 := by
  simp only [parsePARBefore]
  generalize firstWord s = align
  by_cases hn : align = "none".toList
  · subst hn; simp
  · have hn' : ¬ align = ['n', 'o', 'n', 'e'] := hn
    by_cases hl : align.length < 5
    · simp [hn', hl]
    · have : 5 ≤ align.length := by omega
      simp [hn', hl, this]

/-- the two corpus inputs `preserveAspectRatio="x"` and `=""` -/
theorem parsePARBefore_panics_on_x : (match parsePARBefore ['x'] with | .panic => true | .ok _ => false) = true ∧
    (match parsePARBefore [] with | .panic => true | .ok _ => false) = true := by decide +kernel

example : (match parsePAR "xMidYMax slice".toList with | .ok r => (r.x, r.y, r.slice) | .panic => ("", "", false)) = ("mid", "max", true) := by
  decide +kernel

end WR.Props.C07
