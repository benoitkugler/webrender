/-
  C10 — Block-level boxes are sized and stacked per CSS 2.1.
  Property theorems only (helpers are in WR/C10/Lemmas*.lean).  All statements are about the very
  definitions the driver `wrm_c10` executes (WR/C10/Model.lean) and the spec/judge it evaluates on
  the implementation's numbers (WR/C10/Spec.lean).
-/
import WR.C10.Lemmas
import WR.C10.LemmasStack
import WR.C10.Examples
namespace WR.Props.C10
open WR.C10

/-! ## margin collapsing: `collapseMargin` -/

/-- collapseMargin ms = max(0, max ms) + min(0, min ms), for every list -/
theorem collapse_eq (ms : List Rat) : collapseMargin ms = maxPos ms + minNeg ms :=
  collapseMargin_eq_spec ms

/-- `maxPos` is the largest positive margin (0 if there is none), `minNeg` the most negative one -/
theorem collapse_extrema (ms : List Rat) :
    (0 ≤ maxPos ms ∧ (∀ m ∈ ms, m ≤ maxPos ms) ∧ (maxPos ms = 0 ∨ maxPos ms ∈ ms)) ∧
    (minNeg ms ≤ 0 ∧ (∀ m ∈ ms, minNeg ms ≤ m) ∧ (minNeg ms = 0 ∨ minNeg ms ∈ ms)) :=
  ⟨by simpa only [Rat.not_lt] using
      foldl_extremum (· < ·) (fun h => Rat.not_lt.2 (Rat.le_of_lt h)) not_lt_trans ms 0 (maxPos ms) rfl,
   by simpa only [Rat.not_lt] using
      foldl_extremum (· > ·) (fun h => Rat.not_lt.2 (Rat.le_of_lt h)) (fun h1 h2 => not_lt_trans h2 h1)
        ms 0 (minNeg ms) rfl⟩

/-- the collapsed margin does not depend on the order in which the adjoining margins were met -/
theorem collapse_perm {l₁ l₂ : List Rat} (h : l₁.Perm l₂) : collapseMargin l₁ = collapseMargin l₂ := by
  rw [collapse_eq, collapse_eq, maxPos_perm h, minNeg_perm h]

example : [(3 : Rat), -2, 7].Perm [7, 3, -2] := by decide +kernel

/-! ## horizontal: `blockLevelWidth` (= handleMinMaxWidth(blockLevelWidth_)) against CSS 2.1 §10.3.3/§10.4 -/

/-- the code computes exactly the used width and margin-left CSS prescribes, and the prescribed
    margin-right unless the equation is over-constrained -/
theorem width_matches_css (cb pb minW : Rat) (maxW : Option Rat) (h : HState) :
    let r := blockLevelWidth cb pb minW maxW h
    let c := cssWidth cb pb minW maxW h.ml h.mr h.width
    r.width = .val c.w ∧ r.ml = .val c.ml ∧
      (overConstrained cb pb h.ml h.mr (cssWidthArg cb pb minW maxW h.ml h.mr h.width) = false → r.mr = .val c.mr) := by
  obtain ⟨hw, hl, hr⟩ := blockLevelWidth_cssWidth cb pb minW maxW h
  exact ⟨hw, hl, fun hoc => by simpa only [hoc, Bool.false_eq_true, if_false] using hr⟩

/-- whenever the equation is not over-constrained (width auto, or an auto margin
    that is not forced to zero), margin-left + border-left + padding-left + width + padding-right +
    border-right + margin-right = width of the containing block -/
theorem width_equation (cb pb minW : Rat) (maxW : Option Rat) (h : HState)
    (hoc : overConstrained cb pb h.ml h.mr (cssWidthArg cb pb minW maxW h.ml h.mr h.width) = false) :
    let r := blockLevelWidth cb pb minW maxW h
    r.ml.V + pb + r.width.V + r.mr.V = cb := by
  intro r
  obtain ⟨hw, hl, hr⟩ := width_matches_css cb pb minW maxW h
  have hr := hr hoc
  show (blockLevelWidth cb pb minW maxW h).ml.V + pb + (blockLevelWidth cb pb minW maxW h).width.V +
    (blockLevelWidth cb pb minW maxW h).mr.V = cb
  rw [hw, hl, hr]
  exact css1033_equation cb pb h.ml h.mr _

-- hypotheses satisfiable: width auto
example : overConstrained 100 6 (.val 4) .auto (cssWidthArg 100 6 0 none (.val 4) .auto .auto) = false := by decide +kernel

/-- both margins auto and room left: the box is centred (equal margins) -/
theorem width_centred (cb pb w : Rat) (hfit : ¬ cb < pb + w) :
    let r := blockLevelWidth_ cb pb { ml := .auto, mr := .auto, width := .val w }
    r.ml = .val ((cb - pb - w) / 2) ∧ r.mr = .val ((cb - pb - w) / 2) := by
  have hfit' : ¬ cb < pb + w + MF.auto.V + MF.auto.V := by simpa [MF.V, Rat.add_zero] using hfit
  exact blockLevelWidth_.fit hfit' ▸ ⟨rfl, rfl⟩

example : ¬ (100 : Rat) < 10 + 50 := by decide +kernel

/-- when the non-auto terms already exceed the containing block, auto margins become 0 -/
theorem width_auto_margins_zero (cb pb w : Rat) (ml mr : MF) (hover : cb < pb + w + ml.V + mr.V) :
    let r := blockLevelWidth_ cb pb { ml := ml, mr := mr, width := .val w }
    (ml = .auto → r.ml = .val 0) ∧ (mr = .auto → r.mr = .val 0) := by
  rw [blockLevelWidth_.over hover]
  exact ⟨fun h => h ▸ rfl, fun h => h ▸ rfl⟩

example : (100 : Rat) < 0 + 150 + MF.auto.V + MF.auto.V := by decide +kernel

/-
  FULL statement (CSS 2.1 §10.3.3, what the property text asks), FALSE on the current code:

    theorem width_equation_full (cb pb minW maxW h) :
      let r := blockLevelWidth cb pb minW maxW h;  r.ml.V + pb + r.width.V + r.mr.V = cb

  In the over-constrained case CSS (ltr) ignores the specified margin-right and computes it from the
  equation; blockLevelWidth_ does "nothing in ltr": box.MarginRight keeps the specified value (0 for
  an auto margin that the "sum too large" rule forced to zero).  Proved instead:
-/

/-- what the code does when the equation is over-constrained: margin-right stays as specified, so
    the sum misses the containing-block width by exactly (specified − prescribed) margin-right;
    width and margin-left (hence the box's position in ltr) are the prescribed ones -/
theorem width_overconstrained_partial (cb pb minW : Rat) (maxW : Option Rat) (h : HState)
    (hoc : overConstrained cb pb h.ml h.mr (cssWidthArg cb pb minW maxW h.ml h.mr h.width) = true) :
    let r := blockLevelWidth cb pb minW maxW h
    let c := cssWidth cb pb minW maxW h.ml h.mr h.width
    r.mr = .val h.mr.V ∧ r.ml = .val c.ml ∧ r.width = .val c.w ∧
      r.ml.V + pb + r.width.V + r.mr.V = cb + (h.mr.V - c.mr) := by
  intro r c
  obtain ⟨hw, hl, hr⟩ := blockLevelWidth_cssWidth cb pb minW maxW h
  rw [hoc, if_pos rfl] at hr
  refine ⟨hr, hl, hw, ?_⟩
  rw [hr, hl, hw]
  have := css1033_equation cb pb h.ml h.mr (cssWidthArg cb pb minW maxW h.ml h.mr h.width)
  show c.ml + pb + c.w + h.mr.V = cb + (h.mr.V - c.mr)
  rw [show c = css1033 cb pb h.ml h.mr (cssWidthArg cb pb minW maxW h.ml h.mr h.width) from rfl]
  grind

/-- negation witness of the full statement (DESIGN F10-1 = known finding KF10-1: cb 200, margin-left 20, width 100,
    margin-right 30): the sum is 150, not 200 -/
theorem width_equation_full_fails :
    let r := blockLevelWidth 200 0 0 none { ml := .val 20, mr := .val 30, width := .val 100 }
    r.ml.V + 0 + r.width.V + r.mr.V = 150 ∧ (150 : Rat) ≠ 200 := by
  decide +kernel

/-- the used width is the tentative width clamped into [min-width, max-width], min-width
    winning when they conflict -/
theorem minmax (cb pb minW : Rat) (maxW : Option Rat) (h : HState) :
    let r := blockLevelWidth cb pb minW maxW h
    let t := (css1033 cb pb h.ml h.mr h.width).w        -- tentative used width (§10.3.3 without min/max)
    r.width.V = ratMax (match maxW with
                        | some m => ratMin t m
                        | none => t) minW := by
  intro r t
  rw [show r.width = _ from (blockLevelWidth_cssWidth cb pb minW maxW h).1]
  exact cssWidth_w cb pb minW maxW h.ml h.mr h.width

/-- consequences: never below min-width; not above max-width unless min-width forces it; unchanged
    when the tentative width already lies inside -/
theorem minmax_bounds (cb pb minW : Rat) (maxW : Option Rat) (h : HState) :
    let r := blockLevelWidth cb pb minW maxW h
    let t := (css1033 cb pb h.ml h.mr h.width).w
    minW ≤ r.width.V ∧
    (∀ m, maxW = some m → minW ≤ m → r.width.V ≤ m) ∧
    (minW ≤ t → (∀ m, maxW = some m → t ≤ m) → r.width.V = t) := by
  intro r t
  rw [show r.width.V = _ from minmax cb pb minW maxW h]
  unfold ratMax ratMin
  cases maxW <;> grind

example : (0 : Rat) ≤ 40 ∧ (∀ m : Rat, (some 60 : Option Rat) = some m → (40 : Rat) ≤ m) := by
  refine ⟨by decide +kernel, ?_⟩
  intro m hm; cases hm; decide +kernel

/-- percentages and box-sizing: for every valid style (no negative padding, border, width, height,
    min/max — what the validator lets through) `resolvePercentages` yields exactly the declarative
    reading: percentages (also of vertical margins/paddings) against the containing block's WIDTH,
    heights against its height (auto if that is auto), content sizes = specified size minus
    padding (+ border) for padding-box (border-box), floored at 0 -/
theorem box_sizing (cbW : Rat) (cbH : MF) (s : Style) (hw : 0 ≤ cbW) (hh : ∀ h, cbH = .val h → 0 ≤ h)
    (v : s.Valid) : resolvePercentages cbW cbH s = specResolve cbW cbH s :=
  resolvePercentages_eq_spec cbW cbH s hw hh v

/-! ## vertical: stacking and margin collapsing (CSS 2.1 §8.3.1, §10.6.3)

  `StackOK` / `stackViols` (WR/C10/Spec.lean) is the declarative statement, the one the driver also
  evaluates on the implementation's numbers: for every box of the tree
    * first in-flow child: its top border edge coincides with the parent's when no border/padding
      separates them (parent/first-child margins adjoining), otherwise it lies below the parent's
      content edge by the collapse of its adjoining margins;
    * following siblings: top border edge = bottom border edge of the previous in-flow sibling +
      collapse (largest positive + most negative) of all margins adjoining between them, boxes whose
      own margins collapse through contributing all of theirs (so boxes follow in document order, and
      do not overlap whenever that collapsed margin is ≥ 0: a consequence, not a clause of its own);
    * an auto-height box ends at the bottom border edge of its last in-flow child (plus the child's
      collapsed bottom margins only if a bottom border/padding keeps them inside), clamped by
      min/max-height; a fixed height is the clamped computed height.

  FULL statement, FALSE on the current code (known findings KF10-2, KF10-3, KF10-4):

    theorem stack_spec (r cs) (hroot : r.isRoot = true) :
      StackOK (vtree (.mk r cs) (vbox 0 [] (.mk r cs)).tree)

  Proved: the statement for every tree in which no box collapses through (`solid`: each box without
  children has a height, a min-height, a border, a padding or text lines, and text lines occur only
  in boxes without children) — all depths, all widths of trees, all
  rational margins including negative ones.
-/

/-- every stacking statement holds in every subtree, wherever it is laid out -/
theorem stack_spec_subtree (R : RBox) (hs : solid R = true) (y0 : Rat) (adjIn : List Rat) :
    stackViols (vtree R (vbox y0 adjIn R).tree) = [] :=
  (inv_solid R hs y0 adjIn _ _ rfl rfl).viols

/-- `stack_spec` for documents without collapsing-through boxes -/
theorem stack_spec_partial (r : RStyle) (cs : List RBox) (hroot : r.isRoot = true) (hs : solid (.mk r cs) = true) :
    StackOK (vtree (.mk r cs) (vbox 0 [] (.mk r cs)).tree) :=
  ⟨stack_spec_subtree _ hs 0 [], root_top r cs hroot hs⟩

/-- the same for a whole document as the driver lays it out (`layoutDoc`) -/
theorem stack_spec_doc_partial (pageW pageH : Rat) (root : Box)
    (hs : solid (resolveBox pageW (.val pageH) 0 true root) = true) :
    StackOK (vtree (resolveBox pageW (.val pageH) 0 true root) (layoutDoc pageW pageH root)) := by
  cases root with
  | mk s cs =>
    simp only [resolveBox] at hs ⊢
    exact stack_spec_partial _ _ rfl hs

-- non-vacuity: a three-level document with positive and negative margins is `solid`
example : solid (resolveBox 400 (.val 100000) 0 true docSolid) = true := by decide +kernel

/-- where the top border edge of a box lies: below the position handed down by its parent by the
    collapse of ALL margins adjoining its top margin (those collected so far and those of its
    first-child chain) -/
theorem top_edge_partial (R : RBox) (hs : solid R = true) (y0 : Rat) (adjIn : List Rat) :
    (vtree R (vbox y0 adjIn R).tree).v.top =
      y0 + (maxPos (adjIn ++ topGroup (vtree R (vbox y0 adjIn R).tree)) +
            minNeg (adjIn ++ topGroup (vtree R (vbox y0 adjIn R).tree))) := by
  rw [(inv_solid R hs y0 adjIn _ _ rfl rfl).top, collapse_eq]

/-! negation witnesses of the full statement: the three recorded deviations, on the model that the
    correspondence run ties to the code (and replayed against the real layout, see known findings) -/

/-- KF10-2 -/
theorem stack_spec_fails_leading_through : ¬ StackOK (judged docLeadingThrough) := by decide +kernel
/-- KF10-3 -/
theorem stack_spec_fails_nested_through : ¬ StackOK (judged docNestedThrough) := by decide +kernel
/-- KF10-4 -/
theorem stack_spec_fails_negative_through : ¬ StackOK (judged docNegativeThrough) := by decide +kernel

/-- … while the judge accepts the solid example (the model output, evaluated) -/
theorem stack_spec_example : StackOK (judged docSolid) := by decide +kernel

/-! ## the model's two passes = the code's per-box interleaving

  The code resolves percentages and the width of each box when its parent's children loop reaches
  it and then lays it out vertically (`ibox`/`ilist` in Model.lean run in exactly that order); the
  theorems above are about the two-pass form `vbox ∘ resolveBox`.  They are the same function: the
  vertical pass of a box reads nothing that the horizontal pass of a later box writes (a child's
  containing block is the parent's used width, its RESOLVED height and its content edge, all fixed
  before the loop starts). -/

theorem passes_commute (cbW : Rat) (cbH : MF) (x : Rat) (isRoot : Bool) (y0 : Rat) (adjIn : List Rat) (b : Box) :
    ibox cbW cbH x isRoot y0 adjIn b = vbox y0 adjIn (resolveBox cbW cbH x isRoot b) :=
  ibox_eq cbW cbH x isRoot y0 adjIn b

/-- whole documents: the interleaved layout is `layoutDoc` -/
theorem passes_commute_doc (pageW pageH : Rat) (root : Box) :
    (ibox pageW (.val pageH) 0 true 0 [] root).tree = layoutDoc pageW pageH root := by
  rw [passes_commute]; rfl

end WR.Props.C10
