import WR.C15.Lemmas
import WR.C15.Sites
import WR.Gen.C15Globals
/-!
C15 — rendering is deterministic and renders do not interfere.

Determinism of a functional model is vacuous.  What is proved here is ORDER INDEPENDENCE of the
loops over Go maps (modelled in WR/C15/Model.lean as folds over an arbitrary permutation of the
entries; WR/C15/Sites.lean maps every `range`-over-map site of the repository to one of them),
negation witnesses for the sites that are NOT order independent (KF15-2, KF15-3 in the current
code, each confirmed on the real renderer; KF15-1 = F15-1 in resolveLinks and KF15-4 in
GetLangQuotes were fixed in /repo by 37ac465 and 6df2af4: the models follow the fixes and the
witnesses are kept as "before the fix" theorems), and that the proposed repair (iterate in a
canonical order) is order independent for every loop body.  Plus a regenerated fact: the
package-level variables written outside init() equal a reviewed allow-list.

NOT provable here (obligations "partial"): goroutine interleavings and the Go memory model — the
absence of interference between concurrent renders is runtime evidence only (harness/c15).
-/
namespace WR.Props.C15
open WR.C15 List

/-! ### order-independent patterns (the sites with verdict COPY, FILL, ANY, MAX in Sites.lean) -/

/-- `for k, v := range src { dst[k] = v }`: every later read of the destination is independent of
the iteration order (map keys are distinct). -/
theorem copy_perm_invariant {κ ν : Type} [BEq κ] [LawfulBEq κ] (dst : GoMap κ ν) (l₁ l₂ : List (κ × ν))
    (h : l₁.Perm l₂) (nd : (l₁.map (·.1)).Nodup) (q : κ) :
    (copyInto dst l₁).get q = (copyInto dst l₂).get q := by
  simp only [copyInto_eq, GoMap.get, List.lookup_append]
  have hr : l₁.reverse.Perm l₂.reverse := (List.reverse_perm l₁).trans (h.trans (List.reverse_perm l₂).symm)
  have ndr : (l₁.reverse.map (·.1)).Nodup := by
    rw [List.map_reverse]
    exact (List.reverse_perm _).nodup_iff.mpr nd
  rw [lookup_perm hr ndr q]

example : (([(1, "a"), (2, "b")] : List (Nat × String)).map (·.1)).Nodup := by decide

/-- `for k, v := range src { if _, in := dst[k]; !in { dst[k] = v } }`. -/
theorem fill_perm_invariant {κ ν : Type} [BEq κ] [LawfulBEq κ] (dst : GoMap κ ν) (l₁ l₂ : List (κ × ν))
    (h : l₁.Perm l₂) (nd : (l₁.map (·.1)).Nodup) (q : κ) :
    (fillInto dst l₁).get q = (fillInto dst l₂).get q := by
  rw [fillInto_get, fillInto_get, lookup_perm h nd q]

/-- `for k := range m { if p k { flag = true } }` (also the early-return form `return true`). -/
theorem any_perm_invariant {ε : Type} (p : ε → Bool) (l₁ l₂ : List ε) (h : l₁.Perm l₂) :
    anyRange p l₁ = anyRange p l₂ :=
  h.foldl_eq' (fun _ _ _ _ _ => Bool.or_right_comm ..) _

/-- getColumnPlacement's maximum over the occupied columns. -/
theorem max_perm_invariant (init : Int) (l₁ l₂ : List Int) (h : l₁.Perm l₂) :
    maxRange init l₁ = maxRange init l₂ := by
  apply List.Perm.foldl_eq' h
  intro x _ y _ z
  simp only [maxStep_eq_max, Int.max_assoc, Int.max_comm x y]

/-! ### html/tree/style.go:129 — second pass of newStyleFor -/

/-- The pass over the pseudo-element keys writes
`computedStyles[key]` from `cascadedStyles[key]` and from the styles of real elements (pseudo type
""), which the pass never writes: any iteration order gives the same map (as observed by reads). -/
theorem pseudo_pass_perm_invariant {γ σ : Type} (compute : Key → Option γ → Option σ → Option σ → σ)
    (root : Key) (hroot : root.pseudo = "") (casc : GoMap Key γ) (comp : GoMap Key σ)
    (l₁ l₂ : List (Key × γ)) (h : l₁.Perm l₂) (q : Key) :
    (pseudoPass compute root casc comp l₁).get q = (pseudoPass compute root casc comp l₂).get q := by
  rw [pseudoPass_get compute root casc comp comp hroot (fun _ _ => rfl) l₁ q,
      pseudoPass_get compute root casc comp comp hroot (fun _ _ => rfl) l₂ q,
      h.any_eq]

example : ({ el := 0, pseudo := "", page := false } : Key).pseudo = "" := rfl

/-! ### html/document/document.go:316 — resolveLinks

`anchors_perm_invariant` was FALSE until fix 37ac465 (F15-1 / KF15-1: each page's anchor list was
built in map order).  The model follows the code: `resolveLinks` is the current function (names
sorted before the loop), `resolveLinksBeforeFix` the old one. -/

/-- negation witness for the code BEFORE the fix: one page, two anchors, two iteration orders, two
different lists handed to `CreateAnchors` (was replayed on the real code with
`<p id="a">x</p><p id="b">y</p>`; that document stays in the corpus as a regression test). -/
theorem anchors_before_fix_not_perm_invariant :
    ∃ o₁ o₂ : List (List (String × Nat)), Forall₂ Perm o₁ o₂ ∧
      (resolveAnchors [] o₁).1 ≠ (resolveAnchors [] o₂).1 :=
  ⟨[[("a", 1), ("b", 2)]], [[("b", 2), ("a", 1)]],
    Forall₂.cons (Perm.swap _ _ _) Forall₂.nil, by decide +kernel⟩

/-- what held before the fix (and holds for the inner loop under any visiting order): the order
decides only the order INSIDE each page's list — every page gets the same anchors (first page wins
for a name defined on several pages) and the set of defined names is the same. -/
theorem anchors_before_fix_perm_invariant_partial {π : Type} (o₁ o₂ : List (List (String × π))) (seen₁ seen₂ : List String)
    (hs : ∀ s, s ∈ seen₁ ↔ s ∈ seen₂)
    (h : Forall₂ (fun a b => a.Perm b ∧ (a.map (·.1)).Nodup) o₁ o₂) :
    Forall₂ Perm (resolveAnchors seen₁ o₁).1 (resolveAnchors seen₂ o₂).1 ∧
    ∀ s, s ∈ (resolveAnchors seen₁ o₁).2 ↔ s ∈ (resolveAnchors seen₂ o₂).2 := by
  induction h generalizing seen₁ seen₂ with
  | nil => exact ⟨Forall₂.nil, hs⟩
  | @cons a b as bs hab _ ih =>
    obtain ⟨hp, nd⟩ := hab
    have nd' : (b.map (·.1)).Nodup := (hp.map _).nodup_iff.mp nd
    obtain ⟨ha1, ha2⟩ := pageAnchors_spec a seen₁ [] nd
    obtain ⟨hb1, hb2⟩ := pageAnchors_spec b seen₂ [] nd'
    have hseen : ∀ s, s ∈ (pageAnchors seen₁ a).1 ↔ s ∈ (pageAnchors seen₂ b).1 := by
      intro s
      simp only [pageAnchors]
      rw [ha2 s, hb2 s, hs s, (hp.map (·.1)).mem_iff]
    obtain ⟨ih1, ih2⟩ := ih _ _ hseen
    refine ⟨?_, ih2⟩
    simp only [resolveAnchors]
    refine Forall₂.cons ?_ ih1
    simp only [pageAnchors]
    rw [ha1, hb1]
    simp only [List.nil_append]
    have hf : b.filter (fun e => !seen₂.contains e.1) = b.filter (fun e => !seen₁.contains e.1) := by
      apply List.filter_congr
      intro e _
      rw [contains_congr hs]
    rw [hf]
    exact hp.filter _

example : Forall₂ (fun a b => a.Perm b ∧ (a.map (·.1)).Nodup)
    [[("a", 1), ("b", 2)], [("c", 3)]] [[("b", 2), ("a", 1)], [("c", 3)]] :=
  Forall₂.cons ⟨Perm.swap _ _ _, by decide⟩ (Forall₂.cons ⟨Perm.refl _, by decide⟩ Forall₂.nil)

/-- consequently the per-page link lists did not depend on the order even before the fix. -/
theorem links_before_fix_perm_invariant {π ρ : Type} (o₁ o₂ : List (List (String × π))) (links : List (List (Link ρ)))
    (h : Forall₂ (fun a b => a.Perm b ∧ (a.map (·.1)).Nodup) o₁ o₂) :
    (resolveLinksBeforeFix o₁ links).1 = (resolveLinksBeforeFix o₂ links).1 := by
  obtain ⟨_, h2⟩ := anchors_before_fix_perm_invariant_partial o₁ o₂ [] [] (fun _ => Iff.rfl) h
  simp only [resolveLinksBeforeFix]
  apply List.map_congr_left
  intro ls _
  apply List.filter_congr
  intro l _
  simp only [keepLink]
  split
  · exact contains_congr h2 _
  · rfl

/-! ### the repair: iterate in a canonical (sorted) order -/

/-- For EVERY loop body and initial state: folding over the entries sorted by a total order that
separates distinct entries gives the same result for any two iteration orders.  Instances:
anchors by name (F15-1, now in the code), broken out-of-flow boxes by document order (KF15-2), grid items by
document order (KF15-3), language keys by length then name (KF15-4, now in the code). -/
theorem sorted_range_perm_invariant {σ ε : Type} (le : ε → ε → Bool)
    (tot : ∀ a b, le a b = true ∨ le b a = true)
    (trans : ∀ a b c, le a b = true → le b c = true → le a c = true)
    (body : σ → ε → σ) (init : σ) (l₁ l₂ : List ε) (h : l₁.Perm l₂)
    (anti : ∀ a ∈ l₁, ∀ b ∈ l₁, le a b = true → le b a = true → a = b) :
    sortedRangeFold le body init l₁ = sortedRangeFold le body init l₂ := by
  simp only [sortedRangeFold, isort_perm_eq le tot trans h anti]

example : ∀ a ∈ [3, 1, 2], ∀ b ∈ [3, 1, 2], (decide (a ≤ b)) = true → (decide (b ≤ a)) = true → a = b := by decide

/-- For the CURRENT code: the anchor lists (and the set of names) do
not depend on the iteration orders of the per-page anchor maps. -/
theorem anchors_perm_invariant {π : Type} (o₁ o₂ : List (List (String × π))) (seen : List String)
    (h : Forall₂ (fun a b => a.Perm b ∧ (a.map (·.1)).Nodup) o₁ o₂) :
    resolveAnchorsSorted seen o₁ = resolveAnchorsSorted seen o₂ := by
  have : o₁.map (isort byName) = o₂.map (isort byName) := by
    induction h with
    | nil => rfl
    | cons hab _ ih =>
      simp only [List.map_cons, ih]
      rw [isort_perm_eq byName byName_tot byName_trans hab.1 (byName_anti hab.2)]
  simp only [resolveAnchorsSorted, this]

/-- resolveLinks (current code) is order independent in both results. -/
theorem resolve_links_perm_invariant {π ρ : Type} (o₁ o₂ : List (List (String × π))) (links : List (List (Link ρ)))
    (h : Forall₂ (fun a b => a.Perm b ∧ (a.map (·.1)).Nodup) o₁ o₂) :
    resolveLinks o₁ links = resolveLinks o₂ links := by
  simp only [resolveLinks, anchors_perm_invariant o₁ o₂ [] h]

/-! ### html/layout/pages.go:725 — broken out-of-flow boxes re-inserted in map order (KF15-2)

Full statement (FALSE): ∀ lay ctx, l₁.Perm l₂ → oofPass lay ctx l₁ = oofPass lay ctx l₂ -/

/-- negation witness: two floats stacked from the left edge get their positions (and their paint
order) from the iteration order.  Replayed on the real code with two floats broken across the
same page break. -/
theorem oof_not_perm_invariant :
    ∃ l₁ l₂ : List Nat, l₁.Perm l₂ ∧ (oofPass stackLeft 0 l₁).2.1 ≠ (oofPass stackLeft 0 l₂).2.1 :=
  ⟨[3, 5], [5, 3], Perm.swap _ _ _, by decide⟩

/-- with the repair (entries visited in a canonical order, e.g. insertion sequence number) the
result is order independent whatever floatLayout / absoluteBoxLayout do. -/
theorem oof_sorted_perm_invariant {χ ε β : Type} (le : ε → ε → Bool)
    (tot : ∀ a b, le a b = true ∨ le b a = true)
    (trans : ∀ a b c, le a b = true → le b c = true → le a c = true)
    (lay : χ → ε → χ × β × Option ε) (ctx : χ) (l₁ l₂ : List ε) (h : l₁.Perm l₂)
    (anti : ∀ a ∈ l₁, ∀ b ∈ l₁, le a b = true → le b a = true → a = b) :
    oofPass lay ctx (isort le l₁) = oofPass lay ctx (isort le l₂) :=
  sorted_range_perm_invariant le tot trans (oofStep lay) (ctx, [], []) l₁ l₂ h anti

/-! ### html/layout/grid.go:623 — iteration index used as a track index (KF15-3)

Full statement (FALSE): l₁.Perm l₂ → gridSpanPass isFr span l₁ = gridSpanPass isFr span l₂ -/

/-- negation witness, the grid of the replayed document: three `1fr` columns, four items, the
second one spanning two columns.  Visited second, the slice `sizingFunctions[1:4]` contains a
flexible track and the item is skipped; visited last, the slice `[3:3]` is empty and the item is
distributed over the tracks. -/
theorem grid_span_not_perm_invariant :
    ∃ l₁ l₂ : List GridItem, l₁.Perm l₂ ∧
      gridSpanPass [true, true, true] 2 l₁ ≠ gridSpanPass [true, true, true] 2 l₂ :=
  ⟨[⟨0, 0, 1⟩, ⟨1, 0, 2⟩, ⟨2, 2, 1⟩, ⟨3, 2, 1⟩], [⟨0, 0, 1⟩, ⟨2, 2, 1⟩, ⟨3, 2, 1⟩, ⟨1, 0, 2⟩],
    (Perm.cons _ ((Perm.swap _ _ _).trans (Perm.cons _ (Perm.swap _ _ _)))), by decide +kernel⟩

/-! ### text/quotes.go:136 — GetLangQuotes

`lang_quotes_perm_invariant` was FALSE until fix 6df2af4 (KF15-4: the first key in MAP ORDER that
is a prefix of the language won, independently for every quote mark).  The model follows the
code: `langQuotes` is the current function (keys sorted once by decreasing length, then name),
`langQuotesBeforeFix` the old one. -/

/-- For the CURRENT code: the quotes chosen for a language do not depend on the iteration order
of the langQuotes map (instance of `sorted_range_perm_invariant`). -/
theorem lang_quotes_perm_invariant {ν : Type} (exact : Option ν) (dflt : ν) (lang : String)
    (l₁ l₂ : List (String × ν)) (h : l₁.Perm l₂) (nd : (l₁.map (·.1)).Nodup) :
    langQuotes exact dflt lang l₁ = langQuotes exact dflt lang l₂ := by
  unfold langQuotes
  rw [sorted_range_perm_invariant byLenName byLenName_tot byLenName_trans (langStep lang) none l₁ l₂ h
    (byLenName_anti nd)]

example : (([("fr", 1), ("fr_CH", 2)] : List (String × Nat)).map (·.1)).Nodup := by decide

/-- the longest matching key wins in the current code (the replayed document: "fr_CH", not "fr"). -/
theorem lang_quotes_longest_example :
    langQuotes none 0 "fr_CHx" [("fr", 1), ("fr_CH", 2)] = 2 ∧
    langQuotes none 0 "fr_CHx" [("fr_CH", 2), ("fr", 1)] = 2 := by decide +kernel

/-- negation witness for the code BEFORE the fix: `lang="fr_CHx"` is no key; "fr" and "fr_CH" are
both prefixes (was replayed on the real code with `<p lang="fr_CHx"><q>a <q>b</q></q></p>`; that
document stays in the corpus as a regression test). -/
theorem lang_quotes_before_fix_not_perm_invariant :
    ∃ l₁ l₂ : List (String × Nat), l₁.Perm l₂ ∧
      langQuotesBeforeFix none 0 "fr_CHx" l₁ ≠ langQuotesBeforeFix none 0 "fr_CHx" l₂ :=
  ⟨[("fr", 1), ("fr_CH", 2)], [("fr_CH", 2), ("fr", 1)], Perm.swap _ _ _, by decide +kernel⟩

/-- what held before the fix: when all keys that are prefixes of `lang` carry the same quotes (in
particular when at most one key is a prefix) the result was order independent. -/
theorem lang_quotes_before_fix_perm_invariant_partial {ν : Type} (exact : Option ν) (dflt : ν) (lang : String)
    (l₁ l₂ : List (String × ν)) (h : l₁.Perm l₂)
    (uniq : ∀ a ∈ l₁, ∀ b ∈ l₁, (a.1 != "" && isPrefix a.1 lang) = true →
      (b.1 != "" && isPrefix b.1 lang) = true → a.2 = b.2) :
    langQuotesBeforeFix exact dflt lang l₁ = langQuotesBeforeFix exact dflt lang l₂ := by
  unfold langQuotesBeforeFix
  cases exact with
  | some v => rfl
  | none =>
    simp only [rangeFold, langStep_foldl]
    cases h1 : l₁.find? (fun e => e.1 != "" && isPrefix e.1 lang) with
    | none =>
      cases h2 : l₂.find? (fun e => e.1 != "" && isPrefix e.1 lang) with
      | none => rfl
      | some e₂ =>
        have hm := List.mem_of_find?_eq_some h2
        have hp := List.find?_some h2
        rw [List.find?_eq_none] at h1
        exact absurd hp (h1 e₂ (h.mem_iff.mpr hm))
    | some e₁ =>
      have hm1 := List.mem_of_find?_eq_some h1
      have hp1 := List.find?_some h1
      cases h2 : l₂.find? (fun e => e.1 != "" && isPrefix e.1 lang) with
      | none =>
        rw [List.find?_eq_none] at h2
        exact absurd hp1 (h2 e₁ (h.mem_iff.mp hm1))
      | some e₂ =>
        have hm2 := List.mem_of_find?_eq_some h2
        have hp2 := List.find?_some h2
        simp only [Option.map_some, Option.getD_some]
        exact uniq e₁ hm1 e₂ (h.mem_iff.mpr hm2) hp1 hp2

example : ∀ a ∈ [("fr", 1), ("de", 2)], ∀ b ∈ [("fr", 1), ("de", 2)],
    (a.1 != "" && isPrefix a.1 "fr-CH") = true → (b.1 != "" && isPrefix b.1 "fr-CH") = true → a.2 = b.2 := by decide +kernel

/-! ### regenerated fact: package-level variables written outside init() -/

/-- The package-level variables of the packages reachable from document.Render that are assigned,
incremented, appended to, indexed-assigned or deleted from OUTSIDE `init()` and variable
initialisers (extracted syntactically from /repo on every run), together with their declarations
as written, are exactly the reviewed list `WR.C15.globalsAllowList`.  A new entry makes this theorem
fail: new shared mutable state must be reviewed (guarded by a mutex? per-render?).  This is a fact
check, not a proof of race freedom. -/
theorem globals_written_eq_allow_list :
    WR.Gen.C15Globals.written = WR.C15.globalsAllowList.map (fun e => (e.1, e.2.1)) :=
  rfl

/-- Same for method calls whose receiver is rooted in a package-level variable (a pointer-receiver
method may write): the set equals the reviewed list `WR.C15.methodCallsAllowList` (regexps,
strings.Replacer, read-only map accessors, the two log.Logger values, the hyphenation mutex). -/
theorem globals_method_calls_eq_allow_list :
    WR.Gen.C15Globals.methodCalls = WR.C15.methodCallsAllowList.map (·.1) :=
  rfl

/-- Same for every USE of a package-level variable that can hold shared mutable state (map, slice,
pointer, result of a constructor call): the (variable, kind of use) pairs equal the reviewed list
`WR.C15.usesAllowList`.  A process-wide cache that is handed to the renders (`out.cache = theCache`,
kind `value`) or a new shared table shows up here even when no syntactic write to it exists. -/
theorem globals_uses_eq_allow_list :
    WR.Gen.C15Globals.uses = WR.C15.usesAllowList.map (·.1) :=
  rfl

end WR.Props.C15
