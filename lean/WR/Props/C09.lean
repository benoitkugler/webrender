import WR.C09.LemmasFinal
import WR.C09.LemmasOverlap
/-
  C09 — property theorems, about the model the driver `wrm_c09` executes (WR/C09/Model.lean); the lemmas
  live in WR/C09/Lemmas*.lean.

  Reading guide
  * `R` is `Except String`: `.error` models a Go panic (or exhausted fuel), so "∃ r, f x = .ok r" reads "no
    panic, the loop ends within its fuel".
  * `allN p b`: `p ty attrs children` at every box reachable through children without entering a running box
    (`position: running()`; every pass returns those unchanged).  `allW p b`: the same for
    `p ty attrs children cols`, also through the column groups stored in a table (the traversal of `wf`).
    `allAll p b`: at every box, also below running boxes.
  * `bcOK`, `fgOK`, `gridOK` are clauses of the spec `WF` (WR/C09/Spec.lean).  `linesCleanR`: no line box holds
    an in-flow block-level box, directly or through non-running inline boxes.  `linesNotRunning`: no line box
    is running.  `preIIB`, `preFG`, `linesAlone`: the shape an earlier pass leaves behind.
  * `pt_rawOK`: the raw tree as elementToBox builds it.  `postTable`: what the table pass establishes.
    `postGrid` = `postTable` + the flex/grid clause.  `nodeOKw` = `nodeOK` with `gridOK` weakened to `gridOKw`;
    `wfw b` = `allW nodeOKw b` (WR/C09/Shape2.lean).

  The grid clause of the property is FALSE for the code as it is (KF09-1 in known_findings.d/C09.json,
  confirmed on the real code), and with it the composition: each full statement is kept in a comment
  (`FULL STATEMENT`), the provable part is a theorem named `…_partial`, the counterexample is
  `grid_disjoint_witness`.  `running_inline_kept` is the regression example for KF09-2 (BlockInInline must not
  split a running inline box; repaired in /repo, 5d2802b).
-/
namespace WR.Props.C09
open WR.C09

/-! ## 1. Grid-slot assignment of wrapTable -/

/-- `for occupied[gridX] { gridX++ }` stops (within the fuel of the model) on the first free column. -/
theorem firstFree_is_first_free (occ : List Nat) (gx : Nat) :
    gx ≤ firstFree occ gx ∧ firstFree occ gx ∉ occ ∧ ∀ j, gx ≤ j → j < firstFree occ gx → j ∈ occ :=
  ⟨firstFree_ge occ gx, firstFree_not_mem occ gx, fun j => firstFree_min occ gx j⟩

/-- every cell is put on the first free column at or after the end of the previous cell of its row -/
inductive FirstFreeFrom (occ : List Nat) : Nat → List Box → Prop
  | nil (gx : Nat) : FirstFreeFrom occ gx []
  | cons (gx : Nat) (c : Box) (cs : List Box) :
      c.a.gridX = firstFree occ gx → FirstFreeFrom occ (c.a.gridX + c.a.colspan) cs → FirstFreeFrom occ gx (c :: cs)

theorem grid_first_free (cells : List Box) (occThis : List Nat) (following : List (List Nat)) (gx0 : Nat) :
    FirstFreeFrom occThis gx0 (cellsGo cells occThis following gx0).1 := by
  induction cells generalizing following gx0 with
  | nil => exact .nil _
  | cons c cs ih =>
    rw [cellsGo_cons]
    refine .cons _ _ _ ?_ ?_
    · cases c; rfl
    · have : (placed c occThis following gx0).a.gridX + (placed c occThis following gx0).a.colspan
          = firstFree occThis gx0 + c.a.colspan := by cases c; rfl
      rw [this]; exact ih _ _

/-- the cells of one row: source order, pairwise disjoint, each starting on a column that no
    row-spanning cell of an earlier row occupies; everything but GridX and Rowspan is left alone -/
theorem grid_row (cells : List Box) (occThis : List Nat) (following : List (List Nat)) (gx0 : Nat) :
    let out := (cellsGo cells occThis following gx0).1
    out.Pairwise (fun a b => a.a.gridX + a.a.colspan ≤ b.a.gridX) ∧
    (∀ c ∈ out, gx0 ≤ c.a.gridX ∧ c.a.gridX ∉ occThis) ∧
    (∀ c ∈ out, 1 ≤ c.a.rowspan ∧ c.a.rowspan ≤ following.length + 1) ∧
    out.map cellKey = cells.map cellKey :=
  ⟨cellsGo_sorted cells occThis following gx0, cellsGo_gridX_free cells occThis following gx0,
   cellsGo_rowspan cells occThis following gx0, cellsGo_key cells occThis following gx0⟩

/-- the grid loop never indexes out of range, whatever the rows and cells are -/
theorem grid_no_panic (gs : List Box) : ∃ out, groupsGo gs = .ok out ∧ out.length = gs.length :=
  groupsGo_ok gs

/-
  FULL STATEMENT (false for the code):
    theorem grid_disjoint (g g' : Box) (h : groupGo g = .ok g')
        (hc : ∀ row ∈ g.kids, ∀ c ∈ rowCells row, 1 ≤ c.a.colspan) : gridOK g'.ty g'.kids = true
  i.e. for colspan ≥ 1 no two cells of a row group share a slot, spans are non-empty and stay in the group.
  It fails because only the FIRST column of a cell is tested against the occupied set: a colspan-2 cell
  whose first column is free runs into a rowspan-2 cell of the previous row (`grid_disjoint_witness`,
  replayed on the real code as KF09-1; CSS 2.1 §17.5 leaves this case undefined).  What holds:
-/

/-- for every row group: the first column of every cell is occupied by that cell alone, and the cells
    of one row never overlap (no hypothesis on spans) -/
theorem grid_disjoint_partial (g g' : Box) (h : groupGo g = .ok g') : firstSlotsOK g'.kids = true :=
  groupGo_firstSlotsOK g g' h

/-- … and the full grid clause of `WF` holds when no cell spans several columns -/
theorem grid_disjoint_colspan1 (g g' : Box) (h : groupGo g = .ok g')
    (hcs : ∀ row ∈ g.kids, ∀ c ∈ rowCells row, c.a.colspan = 1) : gridOK g'.ty g'.kids = true :=
  groupGo_gridOK g g' h hcs

/-- … and whenever two cells of the model's output do share a slot, it is in the one situation of
    `overlap175`: a cell of an earlier row spanning several rows and a cell of a later row spanning several
    columns that starts left of it (what CSS 2.1 §17.5 leaves undefined and TestColspanRowspan1 expects) -/
theorem grid_overlaps_only_175 (g g' : Box) (h : groupGo g = .ok g')
    (hc : ∀ row ∈ g.kids, ∀ c ∈ rowCells row, 1 ≤ c.a.colspan) : overlapsOnly175 g'.kids = true :=
  groupGo_overlapsOnly175 g g' h hc

/-- the same from the weak grid clause alone, for any tree (used to read `wfw`) -/
theorem overlaps_only_175_of_weak_clause (kids : List Box) (h : gridOKw .tableRowGroup kids = true) :
    overlapsOnly175 kids = true := by
  simp only [gridOKw, Bool.or_eq_true, Bool.and_eq_true] at h
  rcases h with h | ⟨⟨h1, _⟩, h3⟩
  · exact absurd h (by decide)
  · exact overlapsOnly175_of_firstSlotsOK kids h1 h3

-- the hypothesis of `grid_disjoint_colspan1` holds of the first row of the counterexample below (and fails of
-- its second row)
example : ∀ row ∈ witnessGroup.kids.take 1, ∀ c ∈ rowCells row, c.a.colspan = 1 := by decide

/-- the counterexample to `grid_disjoint`: rows `[1×1, 1×2]`, `[2×1]` (colspan×rowspan) -/
theorem grid_disjoint_witness :
    ∃ g', groupGo witnessGroup = .ok g' ∧ gridOK g'.ty g'.kids = false ∧ firstSlotsOK g'.kids = true :=
  grid_overlap_witness

/-! ## 2. InlineInBlock -/

/-- On every tree in which no box has a line-box child and block containers have only block-level or
    inline-level children, InlineInBlock does not panic, keeps the root, and afterwards every block
    container holds either only block-level boxes or exactly one line box; line boxes occur nowhere else. -/
theorem inlineInBlock_wf (b : Box) (h : allN preIIB b = true) :
    ∃ b', inlineInBlock b = .ok b' ∧ b'.ty = b.ty ∧ b'.a = b.a ∧
      allN bcOK b' = true ∧ allN linesAlone b' = true :=
  WR.C09.inlineInBlock_wf b h

example : allN preIIB exIIB = true := by decide

/-! ## 3. BlockInInline (with the termination of its resume loop) -/

/-- progress of the resume loop: whenever innerBlockInInline returns a block, the new resume stack is a
    valid position strictly later in the line (the number of in-flow block-level boxes still reachable
    through inline boxes decreases) — for every box and every stack -/
theorem innerBlockInInline_progress (c : Box) (st : Resume) (c' blk : Box) (st' : Resume)
    (h : innerBII c st = .ok (c', some (blk, st'))) :
    st' ≠ [] ∧ validStack c st' = true ∧ remaining c st' < remaining c st :=
  innerBII_progress_free c st c' blk st' h

/-- … and that number is at most the size of the line box, which is why the fuel `size + 1` suffices -/
theorem resume_measure_bound (c : Box) : remaining c [] ≤ c.size :=
  Nat.le_of_lt (remaining_lt_size c [])

/-- BlockInInline is total (no "Should not skip here", no "Line boxes should have no siblings", the
    resume loop ends within its fuel) on every tree in which, at every box (also below running boxes),
    a line box only occurs as the single child of a block container -/
theorem blockInInline_total (b : Box) (h : allAll linesAlone b = true) :
    ∃ b', blockInInline b = .ok b' ∧ b'.ty = b.ty ∧ b'.a = b.a :=
  WR.C09.blockInInline_total b h

/-- the same with hypotheses that stop at running boxes, provided no line box is running (a line box is
    anonymous and never running in a real tree; InlineInBlock creates them non-running, see
    `inline_passes_wf`) -/
theorem blockInInline_total_flow (b : Box) (h : allN linesAlone b = true)
    (h4 : allN linesNotRunning b = true) :
    ∃ b', blockInInline b = .ok b' ∧ b'.ty = b.ty ∧ b'.a = b.a :=
  WR.C09.blockInInline_total_flow b h h4

/-- after BlockInInline no line box contains an in-flow block-level box, directly or through (non-running)
    inline boxes: blocks inside inlines have split them -/
theorem blockInInline_wf (b b' : Box) (hb : blockInInline b = .ok b') (h : allAll linesAlone b = true) :
    allN linesCleanR b' = true :=
  blockInInline_linesClean b b' hb h

/-- splitting preserves the block-container clause -/
theorem blockInInline_keeps_blockContainers (b b' : Box) (hb : blockInInline b = .ok b')
    (h1 : allN bcOK b = true) (h2 : allN linesAlone b = true) (h4 : allN linesNotRunning b = true) :
    allN bcOK b' = true :=
  blockInInline_bcOK b b' hb h1 h2 h4

/-- regression example for the repaired defect KF09-2: Block[Line[Inline(running)["a", Block["b"], "c"]]]
    — a running inline box is opaque, the tree comes back unchanged (hoisting the block out with its bare text
    child makes layout panic) -/
theorem running_inline_kept :
    ∃ b', blockInInline splitWitness = .ok b' ∧ allN bcOK b' = true ∧ b' = splitWitness :=
  WR.C09.running_inline_kept

example : allAll linesAlone splitWitness = true := by decide

/-- InlineInBlock then BlockInInline, chained: on every tree of the shape `preIIB` both passes succeed and
    the result satisfies the block-container clause and has clean lines -/
theorem inline_passes_wf (g : Box) (h : allN preIIB g = true) :
    ∃ i o, inlineInBlock g = .ok i ∧ blockInInline i = .ok o ∧ o.ty = g.ty ∧ o.a = g.a ∧
      allN bcOK o = true ∧ allN linesCleanR o = true :=
  WR.C09.inline_passes_wf g h

example : allN preIIB exCompose = true := by decide

/-! ## 4. Flex and grid items -/

/-- When the children of flex and grid containers are block-level or inline-level (what the table pass
    leaves: everything else is wrapped or, in flex containers, dropped), then after FlexBoxes and GridBoxes
    every child of a flex or grid container is block-level (inline-level children, text included, sit in
    anonymous block boxes; blank text is gone). -/
theorem flexGrid_wf (b : Box) (h : allN preFG b = true) : allN fgOK (gridBoxes (flexBoxes b)) = true :=
  WR.C09.flexGrid_wf b h

example : allN preFG fgExample = true := by decide

/-! ## 5. Table fix-up (AnonymousTableBoxes / tableBoxesChildren / wrapTable) -/

/-- "Apply the rules again on the new wrapper" terminates: for EVERY box and EVERY list of children the
    re-application depth is at most 5 (the driver grants `tbcFuel` = 8), `wrapTable` never meets a child it
    cannot classify (no nil-map panic), and the grid loop never indexes out of range. -/
theorem tableBoxesChildren_total (box : Box) (children : List Box) :
    ∃ r, tbc tbcFuel box children = .ok r ∧
      (isTable box.ty = false → r.ty = box.ty) ∧
      (isTable box.ty = true → (r.ty = .block ∨ r.ty = .inlineBlock) ∧ r.a.tw = true) :=
  tbc_total_res box children

theorem tableBoxesChildren_fuel (f : Nat) (hf : 5 ≤ f) (box : Box) (children : List Box) :
    ∃ r, tbc f box children = .ok r :=
  tbc_total_of_ge f hf box children

/-- AnonymousTableBoxes is total on every tree -/
theorem anonymousTableBoxes_total (b : Box) : ∃ r, anonTable b = .ok r := anonTable_total b

/-- rules 1.1–3.2 at the returned box, for every non-table parent box: a column has no child, a column
    group only columns, a row group only rows, a row only cells, a cell sits only in a row, and a proper
    table child (row group, row, column group, column, caption) only under one of its proper parents —
    so in a block, inline, flex, grid or cell parent none is left: they are all inside anonymous tables. -/
theorem table_fixup_children (b : Box) (ht : isTable b.ty = false) (hp : isParent b.ty = true)
    (hr : b.a.running = false) :
    ∃ it, anonTable b = .ok (b.setKids it) ∧ ∀ x ∈ it,
      (b.ty ≠ .tableColumn ∧ (b.ty = .tableColumnGroup → x.ty = .tableColumn) ∧
       (b.ty = .tableRowGroup → x.ty = .tableRow) ∧ (b.ty = .tableRow → x.ty = .tableCell) ∧
       (x.ty = .tableCell → b.ty = .tableRow) ∧
       (properTableChild x.ty = true → isInProperParents b.ty x.ty = true)) := by
  obtain ⟨it, h1, h2⟩ := anonTable_kids b ht hp hr
  exact ⟨it, h1, fun x hx => (tbK3_iff b.ty x.ty).mp (h2 x hx)⟩

/-- every table box comes back inside its wrapper: a block (inline-block for an inline table) flagged
    IsTableWrapper whose children are captions, the table, captions; the table holds only row groups and
    its ColumnGroups only column groups -/
theorem table_fixup_wrapper (box : Box) (children : List Box) (ht : isTable box.ty = true) :
    ∃ r, tbc tbcFuel box children = .ok r ∧ TbTableShape box r :=
  tbc_shape_table box children ht

/-- `table_fixup_wf`: on every raw tree the table pass succeeds and establishes, at every box outside
    running subtrees (children and column groups), the table-model clauses of `WF`: every non-running table
    inside a wrapper that holds captions and exactly that table; row groups only in tables, rows only in row
    groups, cells only in rows, columns only in column groups, column groups only in a table's ColumnGroups;
    table ⊃ row groups ⊃ rows ⊃ cells; anonymous boxes supplied for the missing levels; the weakened grid
    clause; columns empty; only raw box types; no line box -/
theorem table_fixup_wf (b : Box) (h : allW pt_rawOK b = true) (hb : isBlockLevel b.ty = true) :
    ∃ r, anonTable b = .ok r ∧ allW postTable r = true ∧
      (isTable b.ty = false ∨ b.a.running = true → r.ty = b.ty ∧ r.a.running = b.a.running) ∧
      (isTable b.ty = true → b.a.running = false → (r.ty = .block ∨ r.ty = .inlineBlock)) :=
  anonTable_postTable_blockRoot b h hb

example : allW pt_rawOK pt_demo = true := by decide

/-- the flex and grid passes keep all of that and establish the flex/grid clause -/
theorem flexGrid_keeps_table_model (t : Box) (h : allW postTable t = true) :
    allW postGrid (gridBoxes (flexBoxes t)) = true ∧
    (gridBoxes (flexBoxes t)).ty = t.ty ∧ (gridBoxes (flexBoxes t)).a = t.a :=
  flexGrid_postGrid t h

/-- InlineInBlock and BlockInInline keep the table-model and flex/grid clauses and establish the
    block-container and inline clauses: every clause of `WF` except the strong grid clause -/
theorem inlinePasses_wf (g : Box) (h : allW postGrid g = true) (hroot : isBlockLevel g.ty = true) :
    ∃ i o, inlineInBlock g = .ok i ∧ blockInInline i = .ok o ∧ o.ty = g.ty ∧ o.a = g.a ∧
      allW nodeOKw o = true :=
  inlinePasses_wfw_blockLevel g h hroot

/-! ## 6. The composition -/

/-
  FULL STATEMENT (false for the code):
    theorem createAnonymous_wf (b : Box) (h : allW pt_rawOK b = true) (root hypotheses) :
        ∃ r, createAnonymousBox b = .ok r ∧ WF r
  with `WF r` = `wfRoot r = true`, i.e. with the full grid clause.  It is false only because of
  `grid_disjoint_witness` (KF09-1).  What holds, for every raw tree, is the same with the grid clause
  weakened to `gridOKw`, which allows shared slots in exactly the situation `overlap175`
  (`overlaps_only_175_of_weak_clause`):
-/

/-- CreateAnonymousBox succeeds (no panic in any pass, all loops end within their fuel) on every raw tree
    (`pt_rawOK` everywhere: the shape elementToBox produces — evaluated by the harness on every real raw
    tree —, cells span ≥ 1 column) with a non-running block-level root that is not an
    inline table; the result has a block-level non-table root and satisfies every clause of `WF` at every box
    outside running subtrees, the grid clause in the weakened form `gridOKw`
    (`wfw` = `wf` with `gridOK` replaced by `gridOKw`). -/
theorem createAnonymous_wf_partial (b : Box) (h : allW pt_rawOK b = true) (hb : isBlockLevel b.ty = true)
    (hi : b.ty ≠ .inlineTable) (hr : b.a.running = false) :
    ∃ r, createAnonymousBox b = .ok r ∧ wfw r = true ∧ isBlockLevel r.ty = true ∧ isTable r.ty = false :=
  createAnonymous_wfw b h hb hi hr

/-- the weakened spec really is weaker: whatever satisfies `WF` below the root satisfies `wfw` -/
theorem wfw_is_weaker (b : Box) (h : wf b = true) : wfw b = true := wfw_of_wf b h

example : allW pt_rawOK pt_demo = true ∧ isBlockLevel pt_demo.ty = true ∧ pt_demo.ty ≠ .inlineTable ∧
    pt_demo.a.running = false := by decide

end WR.Props.C09
