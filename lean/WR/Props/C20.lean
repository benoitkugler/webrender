/-
  C20 — Serialized CSS re-parses to the same component values.
  Theorems about the model of serialize.go (WR/C20/Serialize.lean) composed with the C06 tokenizer
  model, and about the separator table regenerated from the code (WR/Gen/C20Pairs.lean).
  Helper lemmas: WR/C20/RoundTrip.lean and Numbers.lean (consumers), TokenLevel.lean (one tokenizer
  step), Adjacent.lean (sequences), RulesProof.lean (rule-level model: Rules.lean).

  The full round trip,
      ∀ css, hasError (tokenize css) = false → roundTrips badPairs css = true
  is still false on the tree as repaired (commits 4642124, c39df9e, ac4e404, b14f84f), because of
  the findings that were deliberately not repaired (the separator would have to go into every
  `a>b` / `a+b` selector prelude; ids of known_findings.json in brackets):
      * identifier `u`/`U`, `+`, hex digit or `?`   reads back as a unicode-range   (F20_7a, F20_7b) [KF20-7a, KF20-7b]
      * `<`, `!`, identifier `--…`                  reads back as `<!--`            (F20_7c) [KF20-7c]
      * identifier `--`, `>`                        reads back as `-->`             (F20_9) [KF20-pair-ident,>]
      * two adjacent white space tokens              read back as one                (F20_8) [KF20-pair-whitespace,whitespace]
  What is proved, for EVERY string (no bound on length or content):
      names, strings, identifiers, urls, units — at the level of the consumer (`*_roundtrip`) and of
      the whole token (`string_token_roundtrip`, `ident_token_roundtrip`, `url_token_roundtrip`,
      `dimension_unit_roundtrip`); the exclusions of `ident_token_roundtrip` are exactly the
      findings above.  `separator_table_complete`: the regenerated table contains every pair of the
      css-syntax-3 §9 table; `separator_table_still_missing`: the four unrepaired pairs are absent.
  `roundtrip_partial` (section "whole lists"): for EVERY sequence of identifiers, strings,
  urls, at-keywords, hashes (both types), numbers, percentages, dimensions and white space, adjacent
  in any order, serialize → tokenize gives the same tokens: each adjacent pair either gets `/**/` from
  the regenerated table or provably cannot fuse.  Its domain excludes only two white-space tokens in
  a row (`F20_8_whitespace`) and the token classes not handled as atoms: literals / delimiters (where
  the other unrepaired findings live), unicode-range, blocks and functions (nesting), error tokens.
-/
import WR.C20.RulesProof
namespace WR.Props.C20
open WR.C06 WR.C20 WR.Gen.C20Pairs List

/-! ## per-class round trips, for every string -/

/-- names: consuming a name from `serializeName s ++ r` gives back `s` and leaves `r`, provided
`r` cannot continue a name (any fuel ≥ the length of the text) -/
theorem name_roundtrip (s r : Str) (hr : stopsName r) (f : Nat) (hf : (serializeName s ++ r).length ≤ f) :
    consumeName f (serializeName s ++ r) = (s, r) :=
  (readsName_serializeName s).rt r hr f hf

example : stopsName [')', 'x'] ∧ stopsName [] ∧ stopsName ['\\', '\n'] := by
  refine ⟨⟨by decide, by decide⟩, trivial, ⟨by decide, by decide⟩⟩

/-- strings: reading the serialization of `s` (quotes, backslashes, newlines, control characters …)
back gives `s`, ends at the closing quote and leaves what follows -/
theorem string_roundtrip (s r : Str) (f : Nat) (hf : (serializeString s ++ '"' :: r).length ≤ f) :
    consumeString '"' f (serializeString s ++ '"' :: r) = (s, .closed, r) :=
  string_rt s r f hf

/-- identifiers: the text written for a non-empty identifier `s` (leading `-`, `--`, digit,
control characters, non-ASCII …) starts an identifier and is consumed as exactly `s` -/
theorem ident_roundtrip (s t r : Str) (hs : serializeIdentifier s = some t) (hr : stopsName r) :
    startsIdent (t ++ r) = true ∧ ∀ f, (t ++ r).length ≤ f → consumeName f (t ++ r) = (s, r) :=
  ident_rt s t r hs hr

example : serializeIdentifier ['-', '1', 'a'] = some ['-', '\\', '3', '1', ' ', 'a'] := by decide

/-- urls: `url(` … `)` around the text written for `s` (no NUL, which no token value contains)
is consumed as the url token `s`: white space, quotes, parentheses, backslashes and non-printable
code points all come back -/
theorem url_roundtrip (pos : Nat) (s r : Str) (h0 : ∀ c ∈ s, c ≠ '\x00') :
    consumeUrl Quirks.spec pos (serializeUrl s ++ ')' :: r) = ([Tok.url pos s false], r) :=
  url_rt Quirks.spec pos s r h0

example : ∀ c ∈ (['a', '\x01', ' ', ')'] : Str), c ≠ '\x00' := by decide

/-- dimension units: the text written for the unit `u` starts an identifier, is consumed as
exactly `u`, and is never read as the exponent of the number before it -/
theorem unit_roundtrip (u t r : Str) (hs : serializeUnit u = some t) (hr : stopsName r) :
    startsIdent (t ++ r) = true ∧ (∀ f, (t ++ r).length ≤ f → consumeName f (t ++ r) = (u, r)) ∧
    takeExp (t ++ r) = ([], t ++ r) :=
  unit_rt u t r hs hr

example : serializeUnit ['E', '3'] = some ['\\', '4', '5', ' ', '3'] ∧ serializeUnit ['e', 'm'] = some ['e', 'm'] := by
  decide

/-- a hash token that is not an identifier (`#` + name) survives: the tokenizer reads the name back -/
theorem hash_name_roundtrip (s r : Str) (hr : stopsName r) :
    consumeName (serializeName s ++ r).length (serializeName s ++ r) = (s, r) :=
  (readsName_serializeName s).rt r hr _ (Nat.le_refl _)

/-! ## the same at the level of whole tokens (`step` = "consume a token"; `consumeNumeric` for the
unit after a number) -/

/-- strings: no side condition at all -/
theorem string_token_roundtrip (total : Nat) (s r : Str) :
    step Quirks.spec total ('"' :: serializeString s ++ '"' :: r)
      = .leaf [Tok.str (total - ('"' :: serializeString s ++ '"' :: r).length) s false] r :=
  string_step total s r

/-- identifiers: what follows must not continue the name nor be `(`; the two remaining hypotheses
are exactly the unrepaired findings `F20_7a/b` (`u+…` unicode-range) and `F20_9_cdc` (`--` `>` = CDC) -/
theorem ident_token_roundtrip (total : Nat) (s t r : Str) (hs : serializeIdentifier s = some t)
    (hr : stopsName r) (hparen : ∀ r', r ≠ '(' :: r')
    (hur : startsURange (t ++ r) = false) (hcdc : ((t ++ r).take 3 == ['-', '-', '>']) = false) :
    step Quirks.spec total (t ++ r) = .leaf [Tok.ident (total - (t ++ r).length) s] r :=
  ident_step total s t r hs hr hparen hur hcdc

example : stopsName [' ', 'x'] ∧ (∀ r', ([' ', 'x'] : Str) ≠ '(' :: r') ∧
    startsURange (['u', '\\', '+'] ++ [' ', 'x']) = false := by
  refine ⟨⟨by decide, by decide⟩, ?_, by decide⟩
  intro r' h; cases h

/-- urls -/
theorem url_token_roundtrip (total : Nat) (s r : Str) (h0 : ∀ c ∈ s, c ≠ '\x00') :
    step Quirks.spec total ('u' :: 'r' :: 'l' :: '(' :: (serializeUrl s ++ ')' :: r))
      = .leaf [Tok.url (total - ('u' :: 'r' :: 'l' :: '(' :: (serializeUrl s ++ ')' :: r)).length) s false] r :=
  url_step total s r h0

/-- dimensions: after any number, the unit text makes the token a dimension with exactly that unit -/
theorem dimension_unit_roundtrip (pos : Nat) (repr : Str) (isInt : Bool) (u t r : Str)
    (hs : serializeUnit u = some t) (hr : stopsName r) :
    consumeNumeric pos repr isInt (t ++ r) = .leaf [Tok.dim pos repr isInt u] r :=
  dim_numeric pos repr isInt u t r hs hr

/-- at-keywords -/
theorem atkeyword_token_roundtrip (total : Nat) (s t r : Str) (hs : serializeIdentifier s = some t)
    (hr : stopsName r) :
    step Quirks.spec total ('@' :: t ++ r) = .leaf [Tok.atkw (total - ('@' :: t ++ r).length) s] r :=
  atkw_step total s t r hs hr

/-- hashes: the value AND the id flag survive.  An id-type hash is written as an identifier (first
code point escaped when needed: `#\31 a`, `#-\32 x`, `#\-`), an unrestricted hash — whose value can
only be a lone `-` or start with a digit or `-`digit — as a name -/
theorem hash_token_roundtrip (total : Nat) (v t r : Str) (isId : Bool)
    (ht : (if isId then serializeIdentifier v else some (serializeName v)) = some t)
    (hv : isId = false → NonIdValue v) (hr : stopsName r) :
    step Quirks.spec total ('#' :: t ++ r) = .leaf [Tok.hash (total - ('#' :: t ++ r).length) v isId] r :=
  hash_step total v t r isId ht hv hr

example : NonIdValue ['-'] ∧ NonIdValue ['1', 'a'] ∧ NonIdValue ['-', '2', 'x'] :=
  ⟨Or.inl rfl, Or.inr (Or.inl ⟨'1', ['a'], rfl, by decide⟩), Or.inr (Or.inr ⟨'2', ['x'], rfl, by decide⟩)⟩

/-- function names: identifier text + `(` opens a function with exactly that name -/
theorem function_name_roundtrip (total : Nat) (s t rest : Str) (hs : serializeIdentifier s = some t)
    (hu : isUrlName s = false) :
    step Quirks.spec total (t ++ '(' :: rest) = .openF s rest :=
  function_step total s t rest hs hu

/-- numbers: the representation and the integer flag survive whenever what follows can neither
continue the number nor start a unit or be `%` (`NumStop`: not a digit, not `.`, not an exponent) -/
theorem number_token_roundtrip (total : Nat) (repr x : Str) (flag : Bool)
    (h : consumeNumber repr = some (repr, flag, [])) (hx : NumStop x)
    (hid : startsIdent x = false) (hpct : ∀ t, x ≠ '%' :: t) :
    step Quirks.spec total (repr ++ x) = .leaf [Tok.num (total - (repr ++ x).length) repr flag] x :=
  number_step total repr x flag h hx hid hpct

example : consumeNumber ['-', '1', '.', '5', 'e', '3'] = some (['-', '1', '.', '5', 'e', '3'], false, []) ∧
    NumStop [' ', '5'] ∧ NumStop [] := by
  refine ⟨by decide, ⟨Or.inr ⟨' ', ['5'], rfl, by decide⟩, ?_, by decide⟩, ⟨Or.inl rfl, ?_, by decide⟩⟩
  · intro t h; cases h
  · intro t h; cases h

/-- percentages: no condition on what follows -/
theorem percentage_token_roundtrip (total : Nat) (repr x : Str) (flag : Bool)
    (h : consumeNumber repr = some (repr, flag, [])) :
    step Quirks.spec total (repr ++ '%' :: x)
      = .leaf [Tok.pct (total - (repr ++ '%' :: x).length) repr flag] x :=
  percentage_step total repr x flag h

/-- dimensions: representation, integer flag and unit survive (units `e`, `E3`, `e-x`, `1a` … included) -/
theorem dimension_token_roundtrip (total : Nat) (repr u t r : Str) (flag : Bool)
    (h : consumeNumber repr = some (repr, flag, [])) (hs : serializeUnit u = some t) (hr : stopsName r) :
    step Quirks.spec total (repr ++ (t ++ r))
      = .leaf [Tok.dim (total - (repr ++ (t ++ r)).length) repr flag u] r :=
  dimension_step total repr u t r flag h hs hr

/-! ## the separator table (regenerated from the code on every run) -/

/-- every pair of the css-syntax-3 §9 table is in the code's table (no exclusion left after commit
b14f84f) -/
theorem separator_table_complete :
    specPairs.all (fun p => isBadPair badPairs p.1 p.2) = true := by decide +kernel

/-- the fusing pairs of the repository's extended vocabulary (CDC, column and match tokens) added by
commit b14f84f are there too -/
theorem separator_table_extended :
    ([("number".toList, "-->".toList), ("#".toList, "-->".toList), ("@".toList, "-->".toList),
      ("-".toList, "-->".toList), ("/".toList, "*=".toList), ("|".toList, "|=".toList),
      ("|".toList, "||".toList)] : Pairs).all (fun p => isBadPair badPairs p.1 p.2) = true := by decide +kernel

/-- the pairs deliberately left out (unrepaired findings): identifier then `>`, identifier then `+`,
`!` then identifier, white space then white space -/
theorem separator_table_still_missing :
    ([("ident".toList, ">".toList), ("ident".toList, "+".toList), ("!".toList, "ident".toList),
      ("whitespace".toList, "whitespace".toList)] : Pairs).all
      (fun p => !isBadPair badPairs p.1 p.2) = true := by decide +kernel

/-- white space never needs nor gets a separator (used by `roundtrip_partial`) -/
theorem separator_table_whitespace :
    badPairs.all (fun p => p.1 != "whitespace".toList && p.2 != "whitespace".toList && p.1 != []) = true := by
  decide +kernel

/-! ## regression examples of the repaired defects, negation witnesses of the unrepaired ones
(the same inputs are corpus cases / fixed inputs of the harness) -/

/-- sanity: the round trip does hold on ordinary input (separator inserted between `a` and `b(`) -/
theorem roundtrip_example :
    roundTrips badPairs ['a', '/', '*', '*', '/', 'b', '(', '1', 'p', 'x', ' ', '"', 'q', '"', ')'] = true := by decide +kernel

/-- F20-1 (b14f84f) `5/**/%`: number then `%` now get a separator -/
theorem regression_F20_1 : roundTrips badPairs ['5', '/', '*', '*', '/', '%'] = true := by decide +kernel
/-- F20-2 (ac4e404) `1\45 3`: unit `E3` is written `1\45 3` -/
theorem regression_F20_2 : roundTrips badPairs ['1', '\\', '4', '5', ' ', '3'] = true := by decide +kernel
/-- F20-3 (c39df9e) `url(\1 )`: the non-printable code point is written as a hex escape -/
theorem regression_F20_3 : roundTrips badPairs ['u', 'r', 'l', '(', '\\', '1', ' ', ')'] = true := by decide +kernel
/-- F20-4 (ac4e404) `1\45 `: unit `E` keeps its case -/
theorem regression_F20_4 : roundTrips badPairs ['1', '\\', '4', '5', ' '] = true := by decide +kernel
/-- F20-5 (4642124) `\31 a`: identifier `1a` is written `\31 a` -/
theorem regression_F20_5 : roundTrips badPairs ['\\', '3', '1', ' ', 'a'] = true := by decide +kernel
/-- F20-6 (b14f84f) dash, comment, dash, space: the two dashes get a separator -/
theorem regression_F20_6 : roundTrips badPairs ['-', '/', '*', '*', '/', '-', ' '] = true := by decide +kernel

/-- F20-7a (not repaired, KF20-7a) `u/**/+/**/a`: ident `u`, `+`, ident `a` are written `u+a`, a unicode-range -/
theorem F20_7a_unicode_range : roundTrips badPairs ['u', '/', '*', '*', '/', '+', '/', '*', '*', '/', 'a'] = false := by decide +kernel
/-- F20-7b (not repaired, KF20-7b) `u/**/+/**/?` -/
theorem F20_7b_unicode_range : roundTrips badPairs ['u', '/', '*', '*', '/', '+', '/', '*', '*', '/', '?'] = false := by decide +kernel
/-- F20-7c (not repaired, KF20-7c) `<`, `!`, identifier `--x` (comments between them dropped): written `<!--x`, CDO -/
theorem F20_7c_cdo : roundTrips badPairs ['<', '/', '*', '*', '/', '!', '/', '*', '*', '/', '-', '-', 'x'] = false := by decide +kernel
/-- F20-9 (not repaired, KF20-pair-ident,>) identifier `--`, then `>` (comment between them dropped): written as CDC -/
theorem F20_9_cdc : roundTrips badPairs ['-', '-', '/', '*', '*', '/', '>'] = false := by decide +kernel
/-- F20-8 (not repaired, harmless, KF20-pair-whitespace,whitespace) ` /**/ `: two white space tokens are written as one -/
theorem F20_8_whitespace : roundTrips badPairs [' ', '/', '*', '*', '/', ' '] = false := by decide +kernel

/-! ## whole lists -/

/-- The full statement `∀ ts, error-free → tokenize (serialize ts) ≈ ts` is false (see the header).
Proved: for EVERY sequence `ts` of atoms —
identifiers, closed strings, closed urls (no NUL), at-keywords, hashes of both types, numbers,
percentages, dimensions, white space; arbitrary values, representations and units; adjacent in
any order, two white-space tokens in a row excepted — (`Seq badPairs ts txt`, `txt` being the texts
of the atoms with the separators of the table between them), the model of serialize.go with the
table of the running code writes exactly `txt`, and `txt` tokenizes back to `ts`, positions and
the inserted comments aside.  The proof goes pair by pair (`fol_of_pair`): the table contains the
pair, or the first token ends with an unambiguous delimiter, or the second starts with a code
point that cannot be absorbed. -/
theorem roundtrip_partial (ts : List Tok) (txt : Str) (h : Seq badPairs ts txt) :
    serialize badPairs ts = some txt ∧ strip (tokenizePre Quirks.spec txt) = strip ts :=
  roundtrip_adjacent ⟨separator_table_complete, separator_table_whitespace⟩ ts txt h

/-- the domain is inhabited by non-trivial sequences: `1em` `#a` `b` `"c"` with nothing between them -/
example : ∃ txt, Seq badPairs
    [.dim 0 ['1'] true ['e', 'm'], .hash 3 ['a'] true, .ident 5 ['b'], .str 6 ['c'] false] txt := by
  refine ⟨_, .cons _ _ _ _ _ (.dim 0 ['1'] true ['e', 'm'] ['e', 'm'] (by decide) (by decide))
    (.cons _ _ _ _ _ (.hashId 3 ['a'] ['a'] (by decide))
      (.cons _ _ _ _ _ (.ident 5 ['b'] ['b'] (by decide)) (.one _ _ (.str 6 ['c'])) rfl) rfl) rfl⟩

/-- Rule level (after commit eac44a9: the keyword is serialized together
with the prelude).  For EVERY block-less at-rule whose keyword and prelude form a sequence of atoms
(any keyword; identifiers, numbers, urls, strings, hashes, white space … adjacent in any order in the
prelude): the rule serializer writes the text of the sequence followed by `;`; that text tokenizes
back to the keyword, the prelude and a `;` (positions and inserted comments aside); and consuming an
at-rule from those tokens gives the same keyword, the same prelude, no block, and leaves nothing. -/
theorem atrule_roundtrip_partial (kw : Str) (pre : List Tok) (txt : Str)
    (h : Seq badPairs (Tok.atkw 0 kw :: pre) txt) :
    serCompound badPairs (.atrule 0 kw pre none) = some (txt ++ [';']) ∧
    strip (tokenizePre Quirks.spec (txt ++ [';'])) = Tok.atkw 0 kw :: (strip pre ++ [Tok.lit 0 [';']]) ∧
    consumeAtRule 0 kw (strip pre ++ [Tok.lit 0 [';']]) = (.atrule 0 kw (strip pre) none, []) :=
  atrule_rt ⟨separator_table_complete, separator_table_whitespace⟩ kw pre txt h

/-- the repaired case `@a` directly followed by the identifier `b` is in the domain (a separator is written) -/
example : Seq badPairs [Tok.atkw 0 ['a'], Tok.ident 2 ['b']] (['@', 'a'] ++ sepOf badPairs (Tok.atkw 0 ['a']) (Tok.ident 2 ['b']) ++ ['b']) :=
  .cons _ _ _ _ _ (.atkw 0 ['a'] ['a'] (by decide)) (.one _ _ (.ident 2 ['b'] ['b'] (by decide))) rfl

/-- regression of eac44a9 on the model of the rule serializer: `@a/**/b;` parsed without comments is
written with a separator between keyword and prelude -/
theorem regression_F20_10 :
    serCompound badPairs (.atrule 0 ['a'] [Tok.ident 2 ['b']] none) = some ['@', 'a', '/', '*', '*', '/', 'b', ';'] := by
  decide +kernel

/-- a special case: identifiers, strings and urls separated by single white-space tokens -/
theorem roundtrip_partial_ws_separated (ts : List Tok) (txt : Str) (h : WsSeparated ts txt) :
    serialize badPairs ts = some txt ∧ strip (tokenizePre Quirks.spec txt) = strip ts :=
  roundtrip_adjacent ⟨separator_table_complete, separator_table_whitespace⟩ ts txt
    (wsSeparated_seq ⟨separator_table_complete, separator_table_whitespace⟩ ts txt h)

end WR.Props.C20
