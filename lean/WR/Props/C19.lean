/-
  C19 — property theorems.  Statements of the property and their proofs only; helper lemmas are in
  WR/C19/Lemmas.lean, Total.lean and the Scope*.lean modules.  All theorems are about the definitions of
  WR/C19/Model.lean and Scope.lean, which are the ones the driver `wrm_c19` executes.

  Notation: `symOf symbols i` = `symbol(symbols[i])`; `concat` = strings.Join(_, ""); digit lists are
  most-significant-first in the statements (`evalLE … ds.reverse`).
-/
import WR.C19.Lemmas
import WR.C19.Total
import WR.C19.ScopeRefine
import WR.C19.ScopeSpecProof
import WR.Gen.C19Styles
namespace WR.Props.C19
open WR.C19

/-! ## numeric: the digits evaluate back to |n| in base L, no leading zero digit -/

theorem numeric_digits (symbols : List NS) (v : Int) (hL : 2 ≤ symbols.length) (hv : v ≠ 0) :
    ∃ ds : List Nat, numeric symbols v = .ok (concat (ds.map (symOf symbols)))
      ∧ (∀ d ∈ ds, d < symbols.length) ∧ evalLE symbols.length ds.reverse = v.natAbs
      ∧ ds ≠ [] ∧ ds.head? ≠ some 0 := by
  have hne := numDigits_ne_nil _ hL v.natAbs (by omega)
  have hlt : ∀ d ∈ (numDigits symbols.length v.natAbs).reverse, d < symbols.length :=
    fun d hd => numDigits_lt _ hL _ d (List.mem_reverse.mp hd)
  refine ⟨_, ?_, hlt, by simp [numDigits_eval _ hL], by simp [hne], ?_⟩
  · simp [numeric, hv, collect_eq symbols _ hlt, Nat.not_lt.mpr hL]
  · rw [List.head?_reverse, List.getLast?_eq_some_getLast hne]
    exact fun h => numDigits_getLast _ hL _ hne (Option.some.inj h)

example : ∃ (symbols : List NS) (v : Int), 2 ≤ symbols.length ∧ v ≠ 0 := ⟨[NS.s "0", NS.s "1"], -5, by decide, by decide⟩

theorem numeric_zero (symbols : List NS) (h : 2 ≤ symbols.length) :
    numeric symbols 0 = .ok (symOf symbols 0) := by
  have := symAt_nat symbols 0 (by omega)
  simp at this
  simp [numeric, this, Nat.not_lt.mpr h]

/-- the numeral is THE base-L numeral: any digit list with digits < L, no leading zero, value n, is it -/
theorem numeric_unique (L : Nat) (hL : 2 ≤ L) (ds : List Nat) (n : Nat)
    (hlt : ∀ d ∈ ds, d < L) (hlead : ∀ h : ds ≠ [], ds.getLast h ≠ 0) (he : evalLE L ds = n) :
    ds = numDigits L n := numDigits_unique L hL ds n hlt hlead he

example : evalLE 10 [4, 1] = 14 ∧ numDigits 10 14 = [4, 1] := by decide

/-! ## alphabetic: bijective base-L numeration -/

theorem alphabetic_digits (symbols : List NS) (n : Nat) (hL : 2 ≤ symbols.length) (hn : 1 ≤ n) :
    ∃ ds : List Nat, alphabetic symbols n = .ok (concat (ds.map (symOf symbols)))
      ∧ (∀ d ∈ ds, d < symbols.length) ∧ evalBij symbols.length ds.reverse = n := by
  have hlt : ∀ d ∈ (alphaDigits symbols.length n).reverse, d < symbols.length :=
    fun d hd => alphaDigits_lt _ (by omega) _ d (List.mem_reverse.mp hd)
  have hn' : ¬ ((n : Int) < 1) := by omega
  refine ⟨_, ?_, hlt, by simp [alphaDigits_eval]⟩
  simp [alphabetic, collect_eq symbols _ hlt, Nat.not_lt.mpr hL, hn']

/-- onto: every string of letters is the numeral of exactly its value (with `alphabetic_digits`:
    a bijection between the integers ≥ 1 and the non-empty letter strings) -/
theorem alphabetic_bijective (L : Nat) (hL : 1 ≤ L) (ds : List Nat) (hlt : ∀ d ∈ ds, d < L) :
    alphaDigits L (evalBij L ds) = ds ∧ evalBij L (alphaDigits L (evalBij L ds)) = evalBij L ds :=
  ⟨alphaDigits_of_eval L hL ds hlt, alphaDigits_eval L _⟩

example : alphaDigits 26 27 = [0, 0] ∧ evalBij 26 [0, 0] = 27 := by decide

/-! ## symbolic, fixed, cyclic -/

/-- symbolic, value n+1 ≥ 1: symbol (n mod L) repeated ⌈(n+1)/L⌉ = n/L + 1 times -/
theorem symbolic_spec (symbols : List NS) (n : Nat) (hL : 1 ≤ symbols.length) :
    symbolic symbols ((n : Int) + 1) =
      .ok (repeatStr (symOf symbols (n % symbols.length)) (n / symbols.length + 1)) := by
  have hlt : n % symbols.length < symbols.length := Nat.mod_lt _ (by omega)
  have h := symAt_nat symbols (n % symbols.length) hlt
  have e : ((n : Int) + 1 - 1) = (n : Int) := by omega
  have hl : symbols.length ≠ 0 := by omega
  have hr : ∀ q : Nat, ¬ ((q : Int) + 1 < 0) := by intro q; omega
  have ht : ∀ q : Nat, ((q : Int) + 1).toNat = q + 1 := by intro q; omega
  have hv : ¬ ((n : Int) + 1 < 1) := by omega
  simp only [symbolic, e, ← Int.ofNat_tmod, ← Int.ofNat_tdiv, h, hl, hv, or_self, if_false, hr, ht]

theorem fixed_spec_in (symbols : List NS) (first : Int) (k : Nat) (hk : k < symbols.length) :
    nonRepeating symbols first (first + k) = .ok (symOf symbols k) := by
  have h := symAt_nat symbols k hk
  have e : first + (k : Int) - first = (k : Int) := by omega
  have c : (0 : Int) ≤ (k : Int) ∧ (k : Int) < (symbols.length : Int) := by omega
  simp only [nonRepeating, e, c, h, and_self, if_true]

theorem fixed_spec_out (symbols : List NS) (first v : Int)
    (h : v < first ∨ first + symbols.length ≤ v) : nonRepeating symbols first v = .no := by
  have c : ¬ ((0 : Int) ≤ v - first ∧ v - first < (symbols.length : Int)) := by omega
  simp only [nonRepeating, c, if_false]

/-- cyclic is defined over ALL integers: symbol ((v − 1) mod L) with the mathematical (non-negative)
    modulus.  (False before the fix 8517e56 of /repo for v ≤ 0 — Go's % truncates, index −1 panicked;
    that witness was replayed against the code and is now covered by the L1 runs on values ≤ 0.) -/
theorem cyclic_spec (symbols : List NS) (v : Int) (hL : 1 ≤ symbols.length) :
    repeating symbols v = .ok (symOf symbols ((v - 1) % symbols.length).toNat) := by
  have hl : symbols.length ≠ 0 := by omega
  have hpos : (0 : Int) < (symbols.length : Int) := by omega
  have h1 := Int.emod_nonneg (v - 1) (Int.ne_of_gt hpos)
  have h2 := Int.emod_lt_of_pos (v - 1) hpos
  have hs := symAt_nat symbols ((v - 1) % (symbols.length : Int)).toNat (by omega)
  rw [Int.toNat_of_nonneg h1] at hs
  simp only [repeating, hl, if_false, tmod_fixup _ _ hpos, hs]

example : repeating [NS.s "a", NS.s "b", NS.s "c"] 0 = .ok "c" ∧ repeating [NS.s "a", NS.s "b", NS.s "c"] (-4) = .ok "b" := by decide

/-! ## additive: Σ weightᵢ·countᵢ = n with the greedy counts, whenever a representation is returned -/

theorem additive_sum (syms : List (Int × NS)) (v : Int) (s : String) (hv : v ≠ 0)
    (h : additive syms v = .ok s) :
    ∃ cs : List Nat, cs ≠ [] ∧ cs.length ≤ syms.length ∧ s = concat (renderCounts syms cs)
      ∧ weightedSum syms cs = v ∧ Greedy syms v cs := by
  simp only [additive, hv, if_false] at h
  split at h
  · simp at h
  · obtain ⟨cs, h1, h2, h3, h4, h5⟩ := additiveLoop_ok syms v [] s h
    exact ⟨cs, h1, h2, by simpa using h3, h4, h5⟩

example : additive [(10, NS.s "x"), (5, NS.s "v"), (1, NS.s "i")] 17 = .ok "xvii" := by decide

/-- a zero weight is skipped (before the fix bea1e31 of /repo this input divided by zero): the value 1
    is then not representable and goes to the fallback style; 0 is the zero-weight symbol -/
theorem additive_zero_weight :
    additive [(2, NS.s "b"), (0, NS.s "z")] 1 = .no ∧ additive [(2, NS.s "b"), (0, NS.s "z")] 0 = .ok "z"
    ∧ additive [(2, NS.s "b"), (0, NS.s "z"), (1, NS.s "i")] 3 = .ok "bi" := by decide

/-! ## range / fallback, pad, negative (generate-a-counter steps 2, 4, 5) -/

/-- step 2: a value outside the (effective) range of a resolved style is handed, unchanged, to the
    fallback style -/
theorem render_range_fallback (c : Table) (v : Int) (d : Desc) (system : String) (number : Int)
    (hext : d.sys3 = ("", system, number)) (hout : inRanges (effRanges d system) v = false) :
    stepValue c v (some d) none = .fallback d.fallbackName [] v := by
  simp [stepValue, stepResolved, hext, loopFuel, rvLoop, hout]

/-- … and an undefined fallback / the end of every chain is decimal -/
theorem render_unknown_is_decimal (c : Table) (v : Int) (prev : Option (List String))
    (h : (c.get? "decimal").isSome = true) : stepValue c v none prev = .decimal v := by
  simp [stepValue, h]

/-- step 4: with a one-character pad symbol the representation, sign included, has exactly
    max(pad length, natural length) characters (code points; the standard says grapheme clusters) -/
theorem pad_length (d : Desc) (neg : Bool) (np ns initial : String) (h1 : (symbol d.padSym).length = 1) :
    (finish d neg np ns initial).length =
      max d.padLen.toNat (initial.length + (if neg then np.length + ns.length else 0)) :=
  finish_length d neg np ns initial h1

example : ∃ d : Desc, (symbol d.padSym).length = 1 := ⟨{ Desc.zero with padSym := NS.s "0" }, by decide⟩

/-- step 5: the negative sign wraps the padded representation of the absolute value -/
theorem negative_wrap (c : Table) (v : Int) (d : Desc) (system : String) (number : Int) (s : String)
    (hext : d.sys3 = ("", system, number)) (hin : inRanges (effRanges d system) v = true)
    (hneg : v < 0) (huse : usesNegative system = true)
    (hs : systemStep d system number (v.natAbs : Int) = .initial s) :
    ∃ padding, stepValue c v (some d) none =
      .ret (.ok ((if (d.neg1 == NS.zero && d.neg2 == NS.zero) then "-" else symbol d.neg1)
        ++ (padding ++ s) ++ (if (d.neg1 == NS.zero && d.neg2 == NS.zero) then "" else symbol d.neg2))) := by
  obtain ⟨padding, hp⟩ := finish_negative d
    (if (d.neg1 == NS.zero && d.neg2 == NS.zero) then "-" else symbol d.neg1)
    (if (d.neg1 == NS.zero && d.neg2 == NS.zero) then "" else symbol d.neg2) s
  refine ⟨padding, ?_⟩
  simpa [stepValue, stepResolved, hext, loopFuel, rvLoop, hin, hneg, huse, hs] using hp

/-! ## termination of extends / fallback resolution -/

/- For every table whose "decimal" is the plain numeric style (author rules cannot redefine decimal:
   css/validation ParseCounterStyleName; `predefined_decimal_ok` for the predefined table), every style
   name and every integer a Go int can hold (math.MinInt excepted: its absolute value overflows),
   RenderValue returns: extends / fallback graphs of any shape, cycles included, are resolved in
   finitely many steps and the fuel of the model is never exhausted.  (Before the fix c5a853c of /repo
   the auto range was the 32-bit range and the statement failed at 2^31: decimal fell back to decimal
   forever; that witness was replayed against the code — fatal stack overflow — and is now a regression
   probe of the harness.) -/
theorem renderValue_total (c : Table) (h : DecOK c) (v : Int) (hv : Bd v) (name : String) :
    RenderValue c v name ≠ .diverge := by
  unfold RenderValue
  rcases resolveCounter_ne_diverge c h name none with h1 | ⟨k, _, h1⟩
  · rw [h1]; exact renderValue_start c h v hv none
  · generalize resolveCounter c name none = r at h1
    cases h1 with
    | mk d _ => exact renderValue_start c h v hv (some d)

/-- the same for markers -/
theorem renderMarker_total (c : Table) (h : DecOK c) (v : Int) (hv : Bd v) (id : CSID)
    (hid : id.type = "") : RenderMarker c id v ≠ .diverge := by
  unfold RenderMarker
  rw [resolveCounterStyle_named c id hid]
  rcases resolveCounter_ne_diverge c h id.name none with h1 | ⟨k, _, h1⟩
  · -- an unknown name: the marker of "decimal", or "" without a decimal style
    rw [h1]
    simp only
    split
    · rename_i hdec
      rw [resolveCounterStyle_named c _ rfl, resolveCounter_decimal c h]
      cases hd : c.get? "decimal" with
      | none => rw [hd] at hdec; cases hdec
      | some e => exact markerOf_ne_diverge c h v hv e
    · simp
  · generalize resolveCounter c id.name none = r at h1
    cases h1 with
    | mk d _ => exact markerOf_ne_diverge c h v hv d

/-- the predefined table satisfies the hypothesis of the two theorems above -/
theorem predefined_decimal_ok : DecOK WR.Gen.C19Styles.table := by
  intro d hd
  have key : ((WR.Gen.C19Styles.table.get? "decimal").all fun d =>
      decide (d.sys.ext = "" ∧ d.sys.system = "numeric" ∧ 2 ≤ d.symbols.length ∧ (d.rangeAuto || d.rangeIsNone) = true)) = true := by
    decide +kernel
  rw [hd] at key
  simpa using key

example : Bd (-4611686018427387904) ∧ Bd 1099511627776 := by unfold Bd maxInt; omega

/-! ## facts about the predefined styles (regenerated from html5_ua.css as parsed by the real code) -/

/-- every predefined additive style has strictly decreasing non-negative weights, and a zero weight
    only together with the weight 1 (so the zero tuple is never reached with a remainder);
    every predefined cyclic style has a single symbol -/
theorem predefined_no_panic_shapes :
    WR.Gen.C19Styles.table.all (fun e =>
      (e.2.additive.map (·.1)).Pairwise (· > ·) && e.2.additive.all (fun p => p.1 ≥ 0)
      && (!(e.2.additive.any (fun p => p.1 = 0)) || e.2.additive.any (fun p => p.1 = 1))
      && (e.2.sys.system != "cyclic" || e.2.symbols.length == 1)) = true := by
  simp only [← descending_iff]
  decide +kernel

/-! ## counter scopes: what counter-reset / counter-set / counter-increment do to the instance stacks -/

/-- counter-reset on a name not created among the current siblings opens a NEW instance, listed
    after (inside) the existing ones: `counters()` lists outermost first -/
theorem reset_nests (vals : Values) (sib : List String) (name : String) (v : Int)
    (h : sib.contains name = false) :
    resetOne vals sib name v = some (vals.put name (vals name ++ [v]), name :: sib) := by
  have h' : name ∉ sib := by simpa using h
  simp [resetOne, h']

/-- counter-reset on a name already created by the element or an earlier sibling REPLACES that instance -/
theorem reset_replaces_sibling (vals : Values) (sib : List String) (name : String) (v : Int)
    (h : sib.contains name = true) (hne : vals name ≠ []) :
    resetOne vals sib name v = some (vals.put name ((vals name).dropLast ++ [v]), sib) := by
  have h' : name ∈ sib := by simpa using h
  simp [resetOne, h', hne]

/-- counter-set / counter-increment act on the innermost instance only … -/
theorem touch_innermost (vals : Values) (sib : List String) (name : String) (f : Int → Int)
    (outer : List Int) (x : Int) (h : vals name = outer ++ [x]) :
    touchOne vals sib name f = (vals.put name (outer ++ [f x]), sib) := by
  simp [touchOne, h]

/-- … and create one (from 0, scoped like a reset) if there is none -/
theorem touch_creates (vals : Values) (sib : List String) (name : String) (f : Int → Int)
    (h : vals name = []) (hs : sib.contains name = false) :
    touchOne vals sib name f = (vals.put name [f 0], name :: sib) := by
  have h' : name ∉ sib := by simpa using hs
  simp [touchOne, h, h']

/-- list items increment `list-item` implicitly (no counter-increment declared) -/
theorem list_item_implicit (o : Ops) (h : o.incr = none) (hl : o.listItem = true) :
    o.increments = [("list-item", 1)] := by
  simp [Ops.increments, h, hl]

/-- counters() lists all instances outermost first, counter() is the innermost -/
theorem counters_outermost_first (k : ObsKind) (vals : Values) (name : String) (outer : List Int) (x : Int)
    (h : vals name = outer ++ [x]) :
    (Obs.mk k vals).counters name = outer ++ [x] ∧ (Obs.mk k vals).counter name = x := by
  constructor
  · simp only [Obs.counters, h]
    cases outer <;> simp
  · simp [Obs.counter, h]

/-- an element with display:none (and its subtree) leaves every counter untouched -/
theorem display_none_inert (ops : Ops) (b a : Option Ops) (ch : List Elem) (st : State) :
    walk (.node true ops b a ch) st = some (st, []) := by
  simp [walk]

/-- scope_step_spec — the element-local step of scope_spec, for EVERY counters set, EVERY element /
    sibling identities and EVERY counter-reset / counter-increment / counter-set lists: if the stacks
    and the sibling-scope names of the model represent the counters set `E` of CSS Lists 3 (`Match`:
    stack of a name = values of the counters of that name, outermost first; a name is in the sibling
    scope iff its innermost counter was created by the element or a preceding sibling), then
    `UpdateCounters` succeeds and its result represents `applyOps` — the standard's "instantiate"
    (replace the innermost counter if the element or a preceding sibling created it, else nest) for
    every reset, then increments, then sets, each on the innermost counter, instantiating at 0 when
    there is none.  In particular counter() / counters() read the same values on both sides. -/
theorem scope_step_spec (E : CSet) (self : Nat) (sibs : List Nat) (o : Ops) (vals : Values) (sib : List String)
    (up : List (List String)) (h : Match E (self :: sibs) vals sib) :
    ∃ vals' sib', updateCounters ⟨vals, sib :: up⟩ o = some ⟨vals', sib' :: up⟩ ∧
      Match (applyOps false E self sibs o) (self :: sibs) vals' sib' ∧
      ∀ (k : ObsKind) (n : String),
        (Obs.mk k vals').counters n = (Obs.mk k (applyOps false E self sibs o).values).counters n := by
  obtain ⟨vals', sib', h1, h2, _⟩ := update_refines E self sibs o vals sib up h
  refine ⟨vals', sib', h1, h2, ?_⟩
  intro k n
  simp only [Obs.counters, h2.vals n, values_eq_proj]

example : Match [⟨"c", 7, 3⟩] [9, 7] (Values.put (fun _ => []) "c" [3]) ["c"] :=
  match_single "c" 7 3 (by simp)

/-! ### scope_spec, the middle term: invariants of the threaded counters set

`thWalk` (WR/C19/ScopeThread.lean) visits the tree in document order with ONE counters set: each
box-generating element / ::before / ::after applies the standard's `applyOps` (instantiate, increment,
set — counters carry their creator), and the end of an element removes the counters its children
created.  `TInv s ids next`: per name, counters created at the current level (`ids`) sit only in the
innermost position, creators are pairwise distinct and `< next`. -/

/-- visiting any element (any subtree) keeps the invariants, leaves the counters of the outer levels
    in place (`outer`: their creators, per name, in order) and only consumes fresh ids -/
theorem thread_invariants (e : Elem) (t : Th) (h : TInv t.set t.ids t.next) :
    TInv (thWalk e t).1.set (thWalk e t).1.ids (thWalk e t).1.next
    ∧ (∀ n, outer (thWalk e t).1.set (thWalk e t).1.ids n = outer t.set t.ids n)
    ∧ t.next ≤ (thWalk e t).1.next :=
  let s := thWalk_step e t h
  ⟨s.inv, s.outer, s.next⟩

/-- the state elementToBox starts with satisfies them -/
theorem thread_invariants_init : TInv [⟨"footnote", 0, 0⟩] [0] 1 :=
  tinv_single "footnote" 0 0

/-! ### scope_spec, model side: the stack machine computes the threaded set -/

/-- pop_removes_children_counters: when an element ends, popping the sibling scope of its children —
    one `dropLast` per name recorded there — removes exactly the counters created by the children
    (`closeScope`), and the restored sibling scope of the element's own level is again the set of names
    whose innermost counter was created by the element or a preceding sibling -/
theorem pop_removes_children_counters {r : Th} {s : CSet} {outerIds : List Nat} {vals : Values}
    {sc sib : List String} {up : List (List String)}
    (hm : Match r.set r.ids vals sc) (hn : sc.Nodup) (hi : TInv r.set r.ids r.next)
    (hcr : ∀ n, crs (proj (closeScope r) n) = crs (proj s n))
    (hs : ∀ n, sib.contains n = (match (proj s n).getLast? with
      | some vc => outerIds.contains vc.2
      | none => false)) :
    ∃ vals', popScope ⟨vals, sc :: up⟩ = some ⟨vals', up⟩ ∧ Match (closeScope r) outerIds vals' sib :=
  pop_match hm hn hi hcr hs

example : ∃ vals', popScope ⟨Values.put (fun _ => []) "c" [1, 5], ["c"] :: [[]]⟩ = some ⟨vals', [[]]⟩ ∧ vals' "c" = [1] :=
  ⟨_, rfl, by decide⟩

/-- scope_thread_spec: for EVERY element tree and every reset / increment / set assignment, the stack
    machine of elementToBox / UpdateCounters never fails and what ::marker, ::before and ::after read
    (all instances of every counter name, outermost first) is what the threaded counters set gives:
    counters with creators, the standard's instantiate / increment / set at each element, children's
    counters out of scope when the element ends -/
theorem scope_thread_spec (root : Elem) : observe root = some (thWalk root th0).2 := by
  have hrel : Rel th0 State.init.values ["footnote"] :=
    ⟨match_single "footnote" 0 0 (List.mem_singleton.mpr rfl), by simp, thread_invariants_init⟩
  obtain ⟨vals', sib', hw, _⟩ := walk_refines root th0 State.init.values ["footnote"] [] hrel
  have : State.init = ⟨State.init.values, ["footnote"] :: []⟩ := rfl
  rw [observe, this, hw]; rfl

/-! ### scope_spec, specification side: the standard's inheritance reconstructs the threaded set -/

/-- inherit_reconstructs: CSS Lists 3 §4.4.1 "inherit counters" (copy of the parent's set, then the
    preceding sibling's counters that are not there yet, then the values of the element preceding in
    tree order), applied to the parent's set, the set `s` the preceding sibling ended its own step with
    and the value source `L`, yields the threaded set `K`, name by name — provided the parent's
    counters are a prefix of `s`, `K` has the counters of `s` (the children's are gone), `L` holds every
    counter of `K` with its current value, and creators are distinct per name.  (The tree induction
    `walk_spec` establishes these hypotheses at every element.) -/
theorem inherit_reconstructs {parent s L K : CSet} (hp : PrefixOf parent s)
    (hn : ∀ n, (crs (proj s n)).Nodup) (hcr : ∀ n, crs (proj K n) = crs (proj s n))
    (hsub : ∀ n, ∀ vc ∈ proj K n, vc ∈ proj L n) (hl : ∀ n, (crs (proj L n)).Nodup) :
    ∀ n, proj (inheritCounters parent s L) n = proj K n :=
  WR.C19.inherit_reconstructs hp hn hcr hsub hl

example : ∀ n, proj (inheritCounters [⟨"c", 1, 0⟩] [⟨"c", 1, 0⟩, ⟨"d", 2, 5⟩] [⟨"c", 1, 4⟩, ⟨"d", 2, 6⟩, ⟨"e", 3, 1⟩]) n =
    proj [⟨"c", 1, 4⟩, ⟨"d", 2, 6⟩] n := fun n => congrArg (proj · n) (by decide)

/-- the walk of the specification and the threaded walk observe the same, for every element tree -/
theorem spec_thread (root : Elem) : specObserveOrd false root = (thWalk root th0).2 := by
  have hb : BInv [] { set := [⟨"footnote", 0, 0⟩], ids := [0], last := [⟨"footnote", 0, 0⟩], next := 1 } th0 :=
    ⟨rfl, rfl, fun n => .intro (fun _ h => h) (thread_invariants_init.good n).uniq
      (crs_addNew_prefix List.nil_prefix (thread_invariants_init.good n).uniq) fun _ h => nomatch h⟩
  exact (walk_spec root [] _ th0 hb thread_invariants_init).2

/-- scope_spec — for EVERY element tree and EVERY counter-reset / counter-increment / counter-set
    assignment (display:none subtrees, list items' implicit increment, ::before / ::after included):
    the stack machine of elementToBox / UpdateCounters (push of a sibling scope per element, pop at its
    end) never fails, and at every ::marker, ::before and ::after the instances it lists for every
    counter name — `counters()` outermost first, `counter()` the innermost — are those of the counters
    set CSS Lists 3 §4.4 defines for that element: inherited from the parent, the preceding sibling
    and the preceding element in tree order; counter-reset instantiating (replacing an instance the
    element or a preceding sibling created, else nesting), then counter-increment, then counter-set,
    each on the innermost instance and creating one at 0 if there is none. -/
theorem scope_spec (root : Elem) : observe root = some (specObserveOrd false root) := by
  rw [scope_thread_spec, spec_thread]

example : observe (.node false ⟨[("c", 1)], [], none, false⟩ none none
    [.node false ⟨[], [], some [("c", 2)], false⟩ (some ⟨[], [], some [], false⟩) none []]) ≠ none := by
  rw [scope_spec]; simp

/-- the order of CSS Lists 3: increment, then set (`counter-increment: c 2; counter-set: c 10` shows 10;
    before the fix 8b9de81 of /repo the code applied set first and showed 12 — replayed then) -/
theorem scope_order :
    let p : Elem := .node false ⟨[], [("c", 10)], some [("c", 2)], false⟩ (some ⟨[], [], some [], false⟩) none []
    (observe p).map (fun os => os.map (·.counter "c")) = some [10]
    ∧ (specObserveOrd false p).map (·.counter "c") = [10]
    ∧ (specObserveOrd true p).map (·.counter "c") = [12] := by decide

end WR.Props.C19
