/-
  C14 — property theorems.  "The backend receives a well-formed, self-consistent drawing."

  * `monitor_sound_*`: what it means that the monitor `WR.C14.accepts` (the automaton the harness runs on
    every recorded call sequence of the real renderer) accepts a trace;
  * `anchors_*`, `links_resolved`: the model of gatherLinksAndBookmarks' anchor rule + resolveLinks, for
    all lists of pages / boxes / links;
  * `bookmark_tree_*`: the model of makeBookmarkTree, for all lists of levels ≥ 1.
-/
import WR.C14.LemmasProto
import WR.C14.LemmasLinks
import WR.C14.LemmasBookmarks
namespace WR.Props.C14
open WR.C14

/-! ## the monitor -/

/-- Acceptance ⇒ on every canvas, every Paint/Clip is preceded by a path-construction call
    (Rectangle/MoveTo/LineTo/CubicTo/ClosePath) made on that canvas since the previous Paint/Clip. -/
theorem monitor_sound_path (n : Nat) (evs : List Ev) (h : accepts n evs = true) :
    ∀ c ∈ created evs, ∀ pre e post, onCanvas c evs = pre ++ e :: post → e.isConsume = true →
      ∃ a x b, pre = a ++ x :: b ∧ x.isPath = true ∧ ∀ y ∈ b, y.isConsume = false := by
  intro c hc pre e post hsplit he
  exact (pathOk_sound _ false (accepts_canvas h hc).1 pre e post hsplit he).resolve_right (fun h => nomatch h.1)

/-- Acceptance ⇒ every LineTo/CubicTo has a current point: a MoveTo/Rectangle on the same canvas since
    the previous Paint/Clip. -/
theorem monitor_sound_current_point (n : Nat) (evs : List Ev) (h : accepts n evs = true) :
    ∀ c ∈ created evs, ∀ pre e post, onCanvas c evs = pre ++ e :: post → e.needsCur = true →
      ∃ a x b, pre = a ++ x :: b ∧ x.isStart = true ∧ ∀ y ∈ b, y.isConsume = false := by
  intro c hc pre e post hsplit he
  exact (curOk_sound _ false (accepts_canvas h hc).2.1 pre e post hsplit he).resolve_right (fun h => nomatch h.1)

/-- Acceptance ⇒ OnNewStack is balanced on every canvas: no prefix closes more stacks than it opened,
    and at the end every opened stack is closed. -/
theorem monitor_sound_stack (n : Nat) (evs : List Ev) (h : accepts n evs = true) :
    ∀ c ∈ created evs,
      (∀ pre post, onCanvas c evs = pre ++ post → pre.countP Ev.isRestore ≤ pre.countP Ev.isSave)
      ∧ (onCanvas c evs).countP Ev.isRestore = (onCanvas c evs).countP Ev.isSave := by
  intro c hc
  simpa using stackOk_sound _ 0 (accepts_canvas h hc).2.2

/-- Acceptance ⇒ every font a DrawText uses was registered by an earlier AddFont on a canvas of the same
    page (`rootsAfter [] pre` = the canvas ↦ page table at that point of the trace). -/
theorem monitor_sound_fonts (n : Nat) (evs : List Ev) (h : accepts n evs = true) :
    ∀ pre c fs post, evs = pre ++ Ev.drawText c fs :: post → ∀ f ∈ fs,
      ∃ r, lookup c (rootsAfter [] pre) = some r ∧
        ∃ a c' b, pre = a ++ Ev.addFont c' f :: b ∧ lookup c' (rootsAfter [] a) = some r := by
  intro pre c fs post hsplit f hf
  simp only [accepts, Bool.and_eq_true] at h
  obtain ⟨r, h1, h2⟩ := globalOk_fonts evs [] [] h.1.2 pre c fs post hsplit f hf
  refine ⟨r, h1, ?_⟩
  rcases h2 with h2 | h2
  · simp at h2
  · exact h2

/-- Acceptance ⇒ exactly one AddPage per laid-out page (`n` = number of laid-out pages; that the k-th
    AddPage has the k-th page's geometry and content is checked by the harness). -/
theorem one_page_each (n : Nat) (evs : List Ev) (h : accepts n evs = true) :
    (evs.filter Ev.isAddPage).length = n := by
  simp only [accepts, Bool.and_eq_true, pagesOk] at h
  simpa using h.1.1

/-- the three per-canvas listings of the diagnosis the driver prints are empty exactly when the per-canvas automata
    accept (the listings of the global and the seal automaton are not covered here; for the latter see `sealViol_none`) -/
theorem diagnosis_complete (evs : List Ev) (c : Nat) :
    canvasOk evs c = true ↔
      pathViol false 0 (onCanvas c evs) = [] ∧ curViol false 0 (onCanvas c evs) = [] ∧ stackViol 0 0 (onCanvas c evs) = none := by
  simp only [canvasOk, Bool.and_eq_true, pathViol_nil, curViol_nil, stackViol_none]
  constructor
  · rintro ⟨⟨a, b⟩, c⟩; exact ⟨a, b, c⟩
  · rintro ⟨a, b, c⟩; exact ⟨⟨a, b⟩, c⟩

/-- Acceptance by `sealedOk` ⇒ a group canvas is handed over (DrawWithOpacity / SetAlphaMask / SetColorPattern)
    only when every OnNewStack opened on it has been closed, and nothing is drawn on it afterwards. -/
theorem monitor_sound_groups_sealed (evs : List Ev) (h : sealedOk evs = true) :
    ∀ g ∈ groups evs, ∀ pre e post, evs = pre ++ e :: post → e.isUseOf g = true →
      (onCanvas g pre).countP Ev.isSave = (onCanvas g pre).countP Ev.isRestore
      ∧ ∀ y ∈ post, y.canvas = some g → y.isUseOf g = true := by
  intro g hg pre e post hsplit he
  simp only [sealedOk, List.all_eq_true] at h
  have := sealOk_sound g he pre 0 0 false (hsplit ▸ h g hg)
  simpa using this

/-- Acceptance by `docOk` ⇒ the document-level protocol of Write: CreateAnchors is called exactly once, after
    the last AddPage and the last link / media-box call on a page; SetBookmarks and each of the 8 metadata
    setters are called exactly once. -/
theorem document_protocol_sound (d : List DocEv) (h : docOk d = true) :
    (∃ pre post, d = pre ++ DocEv.createAnchors :: post ∧ DocEv.createAnchors ∉ pre ∧ DocEv.createAnchors ∉ post
      ∧ ∀ y ∈ post, y.isPage = false)
    ∧ d.count .setBookmarks = 1
    ∧ ∀ k, k < 8 → d.count (.metadata k) = 1 := by
  simp only [docOk, Bool.and_eq_true, beq_iff_eq, List.all_eq_true, List.mem_range] at h
  exact ⟨phaseOk_sound d h.1.1.1, h.1.1.2, fun k hk => h.1.2 k hk⟩

example : docOk ([.addPage, .pageCall, .addPage, .pageCall, .createAnchors, .setAttachments, .setBookmarks]
    ++ (List.range 8).map .metadata) = true := by decide
example : docOk ([.addPage, .createAnchors, .addPage, .setBookmarks] ++ (List.range 8).map .metadata) = false := by decide
example : sealedOk [.addPage 1, .newGroup 1 2, .save 2, .path 2 .rect, .paint 2, .restore 2, .useGroup 1 2, .other 1] = true := by decide
example : sealedOk [.addPage 1, .newGroup 1 2, .save 2, .useGroup 1 2, .restore 2] = false := by decide
example : sealedOk [.addPage 1, .newGroup 1 2, .useGroup 1 2, .path 2 .rect] = false := by decide

/-- non-vacuity: a two-page trace with a group, a font, text, a clip and a fill is accepted … -/
example : accepts 2 [.addPage 1, .save 1, .path 1 .rect, .clip 1, .newGroup 1 2, .addFont 2 7, .drawText 2 [7],
    .path 2 .moveTo, .path 2 .lineTo, .paint 2, .useGroup 1 2, .restore 1, .doc, .addPage 3, .other 3] = true := by decide
/-- … and a Paint on an empty path, a LineTo without current point, an unregistered font, an unbalanced
    stack and a missing page are each rejected -/
example : accepts 1 [.addPage 1, .path 1 .rect, .paint 1, .paint 1] = false := by decide
example : accepts 1 [.addPage 1, .path 1 .lineTo] = false := by decide
example : accepts 2 [.addPage 1, .addFont 1 7, .addPage 2, .drawText 2 [7]] = false := by decide
example : accepts 1 [.addPage 1, .save 1] = false := by decide
example : accepts 2 [.addPage 1] = false := by decide

/-! ## anchors and links -/

variable {α : Type}

/-- Each name is defined at most once in the whole document. -/
theorem anchors_unique (cands : List (List (String × α))) :
    ((documentAnchors cands).flatten.map (·.1)).Nodup :=
  (pagedAnchors_names (cands.map pageAnchors) [] (pageAnchors_nodup cands)).1

/-- First wins: the definition of a name is the first box with that id in (page, tree) order;
    every non-empty id is defined; the empty name never is. -/
theorem anchors_first_wins (cands : List (List (String × α))) (n : String) :
    findName n (documentAnchors cands).flatten = if n = "" then none else findName n cands.flatten := by
  rw [documentAnchors, pagedAnchors_find _ _ _ (pageAnchors_nodup cands), flatten_pageAnchors_find]
  simp

/-- An anchor is listed on the page where its element lies (page lists correspond one to one and every
    listed anchor is one of that page's candidates), and every page list is in strictly increasing name
    order — the order handed to CreateAnchors is determined by the document (sorted since /repo 37ac465). -/
theorem anchors_on_their_page (cands : List (List (String × α))) :
    (documentAnchors cands).length = cands.length ∧
    ∀ x ∈ List.zip (documentAnchors cands) cands,
      (∀ a ∈ x.1, a ∈ x.2) ∧ x.1.Pairwise (fun a b => a.1 < b.1) := by
  obtain ⟨h1, h2⟩ := pagedAnchors_per_page (cands.map pageAnchors) [] (pageAnchors_nodup cands)
  refine ⟨by simpa [documentAnchors] using h1, fun x hx => ?_⟩
  -- x = (out_i, cands_i); out_i ⊆ pageAnchors cands_i ⊆ cands_i
  have hz : (x.1, pageAnchors x.2) ∈ List.zip (documentAnchors cands) (cands.map pageAnchors) := by
    rw [List.zip_map_right]
    exact List.mem_map.2 ⟨x, hx, rfl⟩
  obtain ⟨g1, g2⟩ := h2 _ hz
  exact ⟨fun a ha => (gatherAnchors_sublist x.2 []).subset (g1 a ha), g2⟩

/-- Links: every emitted internal link names a defined anchor; nothing is invented or reordered; a link is
    dropped iff it is internal and its target is not defined. -/
theorem links_resolved (cands : List (List (String × α))) (links : List (List Link)) :
    (resolveLinks cands links).1.length = links.length ∧
    ∀ x ∈ List.zip (resolveLinks cands links).1 links,
      (∀ l ∈ x.1, l.type = .internal → l.target ∈ ((resolveLinks cands links).2.flatten).map (·.1))
      ∧ x.1.Sublist x.2
      ∧ (∀ l ∈ x.2, l ∈ x.1 ↔ ¬ (l.type = .internal ∧ l.target ∉ ((resolveLinks cands links).2.flatten).map (·.1))) := by
  rw [resolveLinks, zip_map_self, List.length_map]
  refine ⟨rfl, fun x hx => ?_⟩
  obtain ⟨l, _, rfl⟩ := List.mem_map.1 hx
  exact resolvePageLinks_spec (definedNames cands) l

/-- non-vacuity: duplicate id on one page and across pages, an empty id, a dangling link, a link to a later page -/
example : resolveLinks [[("a", 0), ("", 1), ("a", 2)], [("b", 0), ("a", 1)]]
      [[⟨.internal, "b"⟩, ⟨.internal, "zz"⟩, ⟨.external, "http://x"⟩], [⟨.internal, "a"⟩]]
    = ([[⟨.internal, "b"⟩, ⟨.external, "http://x"⟩], [⟨.internal, "a"⟩]], [[("a", 0)], [("b", 0)]]) := by decide
/-- … and the per-page order is the sorted one whatever the tree order -/
example : documentAnchors [[("c", 0), ("a", 1), ("b", 2), ("a", 3)]] = [[("a", 1), ("b", 2), ("c", 0)]] := by decide

/-! ## bookmarks -/

/-- For every list of levels ≥ 1 makeBookmarkTree does not panic (none of `popEmpty`, `badDepth`, `noParent`
    is reachable), yields one entry per bookmark in document order, the depths are the pre-order of a
    forest (first entry at depth 1, each next entry at most one deeper), and depth ≤ level. -/
theorem bookmark_tree_spec_partial (levels : List Int) (h : ∀ l ∈ levels, 1 ≤ l) :
    ∃ ds, bookmarkDepths levels = .ok ds ∧ ds.length = levels.length
      ∧ validPreorder 0 ds = true
      ∧ ∀ x ∈ List.zip ds levels, (x.1 : Int) ≤ x.2 := by
  obtain ⟨ds, h1, h2, h3, h4, _⟩ := bkRun_spec levels {} [] 0 bkInv_init h rfl
  exact ⟨ds, h1, h2, h3, h4⟩

/-- The parent clause: the parents read off the outline (nearest earlier entry with a smaller depth =
    the entry under which `lastByDepth` hangs the node) are the nearest earlier entries with a smaller
    bookmark-level; an entry is at top level iff no earlier entry has a smaller level. -/
theorem bookmark_tree_parents (levels : List Int) (h : ∀ l ∈ levels, 1 ≤ l) (ds : List Nat)
    (hok : bookmarkDepths levels = .ok ds) :
    parents (ds.map Int.ofNat) = parents levels := by
  obtain ⟨ds', h1, _, _, _, hp⟩ := bkRun_spec levels {} [] 0 bkInv_init h rfl
  cases h1.symm.trans hok
  exact hp

/-- The full statement: for every list of levels ≥ 1 makeBookmarkTree does not panic and its outline
    satisfies the property's judge (one entry per bookmark in order, well-formed pre-order, parent =
    nearest earlier entry with a smaller level, depth ≤ level) — the same `bookmarksJudge` the harness
    evaluates on the outline the real code hands to SetBookmarks. -/
theorem bookmark_tree_spec (levels : List Int) (h : ∀ l ∈ levels, 1 ≤ l) :
    ∃ ds, bookmarkDepths levels = .ok ds ∧ bookmarksJudge levels ds = true := by
  obtain ⟨ds, h1, h2, h3, h4⟩ := bookmark_tree_spec_partial levels h
  refine ⟨ds, h1, ?_⟩
  have hp := bookmark_tree_parents levels h ds h1
  simp only [bookmarksJudge, Bool.and_eq_true, beq_iff_eq, List.all_eq_true, decide_eq_true_eq]
  exact ⟨⟨⟨h2, h3⟩, hp⟩, fun x hx => h4 x hx⟩

/-- non-vacuity, levels jumping both ways: h1 h3 h2 h1 h6 h3 h3 h1 -/
example : bookmarkDepths [1, 3, 2, 1, 6, 3, 3, 1] = .ok [1, 2, 2, 1, 2, 2, 2, 1] := by rfl
example : bookmarksJudge [1, 3, 2, 1, 6, 3, 3, 1] [1, 2, 2, 1, 2, 2, 2, 1] = true := by decide
example : bookmarksJudge [2, 5, 3, 4, 1, 1, 7] [1, 2, 2, 3, 1, 1, 2] = true := by decide
example : bookmarkDepths [2, 5, 3, 4, 1, 1, 7] = .ok [1, 2, 2, 3, 1, 1, 2] := by rfl
/-- the hypothesis matters: a level 0 reaches the explicit panic -/
example : bookmarkDepths [1, 0] = .error .badDepth := by rfl

end WR.Props.C14
