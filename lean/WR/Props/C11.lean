/-
  C11 — property theorems: lines are broken greedily and fit their container.

  All theorems are about the functions the driver `wrm_c11` executes (`chunk`, `greedy`, `Geo.place`),
  for ALL paragraphs (lists of units), ALL available widths (an arbitrary function `availOf` of the
  line index: text-indent, and in principle floats) and both wrapping modes.
-/
import WR.C11.Lemmas
namespace WR.Props.C11
open WR.C11

/-! ## the model satisfies the spec, and the spec determines the lines -/

/-- The greedy breaking satisfies every clause of the specification. -/
theorem greedy_ok (f : Font) (wrap : Bool) (availOf : Nat → Int) (items : List Item) :
    GreedyOK f wrap availOf items (greedy f wrap availOf items) := by
  fun_induction greedy f wrap availOf items with
  | case1 => exact (greedyOK_nil_iff ..).2 rfl
  | case2 av a rest r ih =>
    have hc := ih.conserve
    rw [greedyOK_cons_iff, hc]
    exact ⟨by rw [List.cons_append, fill_append], fill_taken .., hc ▸ ih⟩

/-- Uniqueness: ANY list of lines that satisfies the specification is the greedy one.  Hence
    judging the implementation's lines with `GreedyOK` and comparing them with the model's lines
    are the same test. -/
theorem greedy_unique (f : Font) (wrap : Bool) (availOf : Nat → Int) (items : List Item)
    (ls : List (List Item)) (h : GreedyOK f wrap availOf items ls) :
    ls = greedy f wrap availOf items := by
  induction ls generalizing availOf items with
  | nil => rw [(greedyOK_nil_iff ..).1 h, greedy_nil]
  | cons l ls ih =>
    cases l with
    | nil => exact absurd rfl (h.nonempty [] List.mem_cons_self)
    | cons a l =>
      obtain ⟨rfl, ht, hr⟩ := (greedyOK_cons_iff ..).1 h
      rw [List.cons_append, greedy_cons, (fill_eq_iff ..).2 ht, ← ih _ _ hr]

/-- The specification holds of the model's lines and of no others. -/
theorem greedyOK_iff (f : Font) (wrap : Bool) (availOf : Nat → Int) (items : List Item)
    (ls : List (List Item)) :
    GreedyOK f wrap availOf items ls ↔ ls = greedy f wrap availOf items :=
  ⟨greedy_unique f wrap availOf items ls, fun h => h ▸ greedy_ok f wrap availOf items⟩

/-- the hypothesis of `greedy_unique` is satisfiable by a non-trivial value: `xx xxx x` at 5 glyphs -/
example : GreedyOK ⟨1, 1⟩ true (fun _ => 5)
    [⟨0, false, [.word 2]⟩, ⟨1, false, [.word 3]⟩, ⟨1, false, [.word 1]⟩]
    [[⟨0, false, [.word 2]⟩], [⟨1, false, [.word 3]⟩, ⟨1, false, [.word 1]⟩]] := by
  rw [greedyOK_iff]
  simp [greedy_cons, greedy_nil, fill, Item.w, toksW, tokW]

/-- Content conservation: the lines, concatenated, are the paragraph's units, in order. -/
theorem greedy_conserves (f : Font) (wrap : Bool) (availOf : Nat → Int) (items : List Item) :
    (greedy f wrap availOf items).flatten = items :=
  (greedy_ok f wrap availOf items).conserve

/-- Every line overflows only as a single unit (restated for the model). -/
theorem greedy_fits (f : Font) (availOf : Nat → Int) (items : List Item) (i : Nat) (l : List Item)
    (h : (greedy f true availOf items)[i]? = some l) :
    ((lineW f l : Nat) : Int) ≤ availOf i ∨ l.length = 1 :=
  (greedy_ok f true availOf items).fits i l h rfl

/-- With wrapping forbidden (nowrap / pre) every line break is a forced one. -/
theorem nowrap_breaks_forced_only (f : Font) (availOf : Nat → Int) (items : List Item) (i : Nat)
    (l n : List Item) (b : Item)
    (hl : (greedy f false availOf items)[i]? = some l)
    (hn : (greedy f false availOf items)[i + 1]? = some n) (hb : n.head? = some b) :
    b.forced = true := by
  rcases (greedy_ok f false availOf items).maximal i l n b hl hn hb with h | ⟨h, _⟩
  · exact h
  · cases h

/-! ## content conservation through the whole chain, and soundness of the judge's regrouping -/

/-- The units made from a paragraph hold exactly its tokens other than collapsible spaces and forced
    breaks, in order: the chunker neither loses, duplicates nor reorders words, atomic inlines or edges. -/
theorem chunk_conserves (f : Font) (ts : List Tok) :
    (chunk f ts).flatMap (·.toks) = ts.filter Tok.keep := by
  rw [chunk_toks, CS.out_foldl_step]; rfl

/-- ... hence so do the lines of the whole layout. -/
theorem lines_conserve (G : Geo) (ts : List Tok) :
    ((G.lines (chunk G.f ts)).flatten.flatMap (·.toks)) = ts.filter Tok.keep := by
  rw [Geo.lines, greedy_conserves, chunk_conserves]

/-- The judge's regrouping of the paragraph's units by the implementation's per-line glyph counts,
    when it succeeds, yields lines made of whole units that concatenate to the paragraph and hold
    exactly the reported counts ("no break inside a unit", content conserved). -/
theorem regroup_sound : ∀ (cs : List Nat) (items : List Item) (ls : List (List Item)),
    regroup cs items = some ls →
    ls.flatten = items ∧ ls.map (fun l => (l.map Item.cnt).sum) = cs := by
  intro cs items
  fun_induction regroup cs items <;> intro ls h
  case case1 => cases h; exact ⟨rfl, rfl⟩
  -- the branch that answers: `takeCnt` gave the first line (`ht`), `regroup` the others (`hr`)
  case case4 c _ a _ _ _ _ ht _ hr ih =>
    cases h
    obtain ⟨h1, h2⟩ := ih _ hr
    obtain ⟨t1, t2⟩ := takeCnt_sound _ _ _ _ _ ht
    exact ⟨by rw [List.flatten_cons, h1, List.cons_append, t1],
      by rw [List.map_cons, h2, List.map_cons, List.sum_cons, t2]⟩
  all_goals cases h

/-! ## text-indent -/

/-- text-indent shifts the first line only: it reduces the width available to line 0 and to no other. -/
theorem indent_first_only (G : Geo) :
    G.availOf 0 = G.avail - G.indent ∧ ∀ i, i ≠ 0 → G.availOf i = G.avail := by
  constructor
  · simp [Geo.availOf, Geo.indentOf]
  · intro i hi
    simp [Geo.availOf, Geo.indentOf, hi]

/-- ... and the placement of every later line does not depend on the indent at all. -/
theorem indent_irrelevant_after_first (G : Geo) (d : Int) (i : Nat) (hi : i ≠ 0) (y : Rat) (last : Bool)
    (l : List Item) :
    ({ G with indent := d }).placeLine i y last l = G.placeLine i y last l := by
  simp only [Geo.placeLine, Geo.indentOf, if_neg hi,
    placeItems_congr (show ({ G with indent := d } : Geo).f = G.f from rfl)]
  rfl

/-! ## text-align -/

/-- The alignment offset is 0 / (avail − w)/2 / avail − w; a line that does not fit is not moved. -/
theorem align_offsets (avail w : Rat) :
    alignOffset .left avail w = 0 ∧
    alignOffset .justify avail w = 0 ∧
    (w < avail → alignOffset .center avail w = (avail - w) / 2) ∧
    (w < avail → alignOffset .right avail w = avail - w) ∧
    (avail ≤ w → ∀ al, alignOffset al avail w = 0) := by
  refine ⟨?_, ?_, alignOffset_of_lt .center, alignOffset_of_lt .right, fun h al => alignOffset_of_le al h⟩
  · simp only [alignOffset]; split <;> rfl
  · simp only [alignOffset]; split <;> rfl

/-- The aligned content stays inside the container (when it fits). -/
theorem align_inside (al : Align) (avail w : Rat) (h : w ≤ avail) :
    0 ≤ alignOffset al avail w ∧ alignOffset al avail w + w ≤ avail := by
  have h0 : (0 : Rat) ≤ 0 ∧ 0 + w ≤ avail := ⟨Rat.le_refl, (Rat.zero_add w).symm ▸ h⟩
  by_cases h' : avail ≤ w
  · rw [alignOffset_of_le al h']; exact h0
  · rw [alignOffset_of_lt al (Rat.not_le.1 h')]
    cases al with
    | left | justify => exact h0
    | center => grind
    | right => exact ⟨(Rat.le_iff_sub_nonneg w avail).1 h, Rat.sub_add_cancel ▸ Rat.le_refl⟩

/-- right alignment is flush with the end edge -/
theorem align_right_flush (avail w : Rat) (h : w ≤ avail) : alignOffset .right avail w + w = avail := by
  by_cases h' : avail ≤ w
  · rw [alignOffset_of_le _ h', Rat.zero_add]; exact Rat.le_antisymm h h'
  · rw [alignOffset_of_lt _ (Rat.not_le.1 h')]; exact Rat.sub_add_cancel

/-- centring leaves equal room on both sides -/
theorem align_center_symmetric (avail w : Rat) (h : w ≤ avail) :
    alignOffset .center avail w = avail - (alignOffset .center avail w + w) := by
  by_cases h' : avail ≤ w
  · rw [alignOffset_of_le _ h', Rat.zero_add, Rat.le_antisymm h h', Rat.sub_self]
  · rw [alignOffset_of_lt _ (Rat.not_le.1 h')]; grind

/-- Justification: the extra advances given to the spaces sum to `avail − w`, i.e. a justified line
    fills the available width exactly. -/
theorem justify_sum (avail w : Rat) (nsp : Nat) (hw : w < avail) (hn : nsp > 0) :
    w + justifyExtra .justify false avail w nsp * (nsp : Rat) = avail := by
  have hn' : (nsp : Rat) ≠ 0 := fun h => Nat.ne_of_gt hn (Rat.natCast_inj.1 h)
  rw [justifyExtra, if_pos ⟨rfl, rfl, hw, hn⟩, Rat.div_mul_cancel hn', Rat.add_comm, Rat.sub_add_cancel]

example : (3 : Rat) + justifyExtra .justify false 10 3 2 * ((2 : Nat) : Rat) = 10 :=
  justify_sum 10 3 2 (by decide) (by decide)

/-- Lines that are last, or end with a forced break, or are not justified, get no extra spacing. -/
theorem justify_none (al : Align) (avail w : Rat) (nsp : Nat) :
    justifyExtra al true avail w nsp = 0 ∧ (al ≠ .justify → justifyExtra al false avail w nsp = 0) := by
  constructor
  · simp [justifyExtra]
  · intro h; simp [justifyExtra, h]

/-- The width of a placed justified line is exactly the available width. -/
theorem justified_line_fills (G : Geo) (i : Nat) (y : Rat) (l : List Item)
    (hal : G.align = .justify)
    (hw : ((G.indentOf i : Int) : Rat) + ((lineW G.f l : Nat) : Rat) < ((G.avail : Int) : Rat))
    (hn : nSpaces l > 0) :
    (G.placeLine i y false l).w = ((G.avail : Int) : Rat) := by
  simp only [Geo.placeLine, hal]
  exact justify_sum _ _ _ hw hn

/-! ## vertical stacking -/

/-- Every line box is at least as tall as the line-height. -/
theorem lineH_ge_lh (G : Geo) (l : List Item) : G.lh ≤ G.lineH l := by
  rw [Geo.lineH, G.lh_eq]
  exact Rat.le_trans (Rat.add_le_add_right.2 (G.le_above l)) (Rat.add_le_add_left.2 (G.le_below l))

/-- Lines stack without gap or overlap: each line box starts where the previous one ends. -/
theorem lines_stack (G : Geo) : ∀ (ls : List (List Item)) (i : Nat) (y : Rat) (k : Nat) (p q : PLine),
    (G.placeFrom i y ls)[k]? = some p → (G.placeFrom i y ls)[k + 1]? = some q → q.y = p.y + p.h := by
  intro ls
  induction ls with
  | nil => intro i y k p q hp; cases hp
  | cons l ls ih =>
    intro i y k p q hp hq
    cases k with
    | succ k => exact ih _ _ k p q hp hq
    | zero =>
      cases ls with
      | nil => cases hq
      | cons l2 ls2 => cases hp; cases hq; rfl

/-- … the first one at the top of the container's content box -/
theorem first_line_at_top (G : Geo) (l : List Item) (ls : List (List Item)) :
    ((G.place (l :: ls)).head?.map (·.y)) = some G.y0 := by
  simp [Geo.place, Geo.placeFrom, Geo.placeLine]

/-- One line box per line. -/
theorem place_length (G : Geo) (ls : List (List Item)) : (G.place ls).length = ls.length := by
  simp only [Geo.place]
  generalize G.y0 = y
  generalize 0 = i
  induction ls generalizing i y with
  | nil => rfl
  | cons l ls ih => simp [Geo.placeFrom, ih]

end WR.Props.C11
