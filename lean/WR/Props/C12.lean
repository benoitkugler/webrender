/-
  C12 — Pages have the declared geometry and break where CSS allows: property theorems.

  The page-type machine theorems quantify over every box tree, every oracle (page geometry), every
  fuel, start index and loop state; `paginateWith rules …` (what the driver executes) is the instance
  `P := geoPages lineH (dimsOf rules)`.  The theorems on where a page ends (early_end, avoid) are stated here
  for the C12 property; the layout functions they speak of and their lemmas are those of WR/C02.
-/
import WR.C12.Lemmas
import WR.C02.Termination
import WR.C02.Justify
namespace WR.Props.C12
open WR.C02 WR.C12

variable {γ : Type}

/-! ## the page-type state machine -/

/-- Pages alternate sides, starting with the side of the loop state, and are numbered consecutively. -/
theorem sides_alternate (P : PageInfo → Oracle γ × γ) (ltr : Bool) (root : Box) (fuel index : Nat) (s : PState)
    (k : Nat) (h : k < (pagesLoop P ltr root fuel index s).pages.length) :
    ((pagesLoop P ltr root fuel index s).pages[k]).info.right = (if k % 2 = 0 then s.right else !s.right) :=
  (alt_index s.right index _ (pagesLoop_alt P ltr root fuel index s) k h).2

/-- `:first` (PageElement.First, i.e. index 0) holds for the page at position 0 only: the k-th page of a
    document has index k. -/
theorem first_only_index0 (P : PageInfo → Oracle γ × γ) (ltr : Bool) (root : Box) (fuel : Nat)
    (k : Nat) (h : k < (paginate P ltr root fuel).pages.length) :
    ((paginate P ltr root fuel).pages[k]).info.index = k := by
  have := (alt_index _ 0 _ (pagesLoop_alt P ltr root fuel 0 (initState ltr root)) k h).1
  rw [Nat.zero_add] at this
  exact this

/-- The first page of an ltr document whose root has no forced side is a right page. -/
theorem first_page_right (root : Box) (h : root.st.bb = .auto) : (initState true root).right = true := by
  simp [initState, h]

/-- A page is blank exactly when it carries no fragment of the document. -/
theorem blank_has_no_content (P : PageInfo → Oracle γ × γ) (ltr : Bool) (root : Box) (fuel index : Nat) (s : PState)
    (p : Page) (hp : p ∈ (pagesLoop P ltr root fuel index s).pages) :
    (p.info.blank = true ↔ p.frag = none) ∧ (p.info.blank = true → p.leaves = []) := by
  have h := pagesLoop_blank P ltr root fuel index s p hp
  exact ⟨h, fun hb => by simp [Page.leaves, h.mp hb]⟩

/-- A blank page consumes nothing: the loop continues from the same resume position and break request. -/
theorem blank_keeps_resume (P : PageInfo → Oracle γ × γ) (ltr : Bool) (root : Box) (fuel index : Nat) (s : PState)
    (hb : (pageInfo ltr index s).blank = true) :
    (pagesLoop P ltr root (fuel+1) index s).pages =
      { info := pageInfo ltr index s, frag := none } ::
        (pagesLoop P ltr root fuel (index+1) { resume := s.resume, nb := s.nb, right := !s.right }).pages := by
  rw [pagesLoop]; simp [hb]

/-- **Forced side honoured.**  When the pending break asks for a side `w` (left/right/recto/verso), the
    next page is a non-blank page of side `w`, or one blank page followed (if the loop goes on) by a
    non-blank page of side `w`: at most one blank page is inserted. -/
theorem forced_side_honoured (P : PageInfo → Oracle γ × γ) (ltr : Bool) (root : Box) (fuel index : Nat) (s : PState)
    (w : Bool) (hw : sideOf ltr s.nb.brk = some w) :
    SideHonoured w (pagesLoop P ltr root fuel index s).pages :=
  (pagesLoop_head_sideHonoured P ltr root fuel index s).2 w hw

example : sideOf true (some Brk.verso) = some false := rfl

/-- no side request, no blank page -/
theorem no_blank_without_side (ltr : Bool) (index : Nat) (s : PState) (h : sideOf ltr s.nb.brk = none) :
    (pageInfo ltr index s).blank = false := by
  simp [pageInfo, h]

/-- a blank page is not named (`:blank` pages use the unnamed page's rules) -/
theorem blank_page_unnamed (ltr : Bool) (index : Nat) (s : PState) (h : (pageInfo ltr index s).blank = true) :
    (pageInfo ltr index s).name = 0 := by
  unfold pageInfo at h ⊢
  simp only at h ⊢
  simp [h]

/-! ## named pages -/

/-- **A change of named page forces a break** (F12-1, fixed in /repo by 67f534b): between two in-flow
    siblings the break is forced exactly when the page name at the end of the first differs from the
    page name at the start of the second — including a change to or from the unnamed page. -/
theorem named_page_change_forces_break (p c : Box) : nameStop p c = true ↔ p.pgEnd ≠ c.pgStart := by
  simp [nameStop]

/-- … and the layout acts on it: when the child `c` about to be laid out follows an in-flow sibling `p`
    with a different page name, the child loop stops BEFORE `c` (nothing of `c` is placed, the resume
    position is the start of `c`) and requests `c`'s page name for the next page — for every oracle,
    every geometry state, with or without content already on the page. -/
theorem named_page_change_stops (O : Oracle γ) (c p : Box) (ks : Boxes) (index i0 : Nat) (sub : RS) (g : γ)
    (pie : Bool) (nb : NextPage) (hi : ¬ index < i0) (h : p.pgEnd ≠ c.pgStart) :
    layKids O (.cons c ks) index i0 sub (some p) g pie nb =
      .ok .nil (some (.at index .start)) g none { brk := some (between p c), pg := c.pgStart, changed := true } := by
  have hn : nameStop p c = true := (named_page_change_forces_break p c).mpr h
  rw [layKids]
  simp [hi, pbOf, nsOf, hn]

/-- The requested name — even the unnamed page 0 — is not overwritten on the way up: every enclosing
    block hands a `changed` request through unchanged (before the fix `pg = 0` was refilled from the
    fragment's end page value). -/
theorem changed_name_kept (O : Oracle γ) (st : St) (gE : γ) (pie : Bool) (fs : Frags) (r : Option RS) (g' : γ)
    (eb : EB Frags) (nb : NextPage) (br : BRes γ) (hc : nb.changed = true)
    (h : finishBlock O st gE pie fs r g' eb nb = .ok br) : br.nb = nb := by
  unfold finishBlock at h
  split at h
  · simp at h
  · simp only [BOut.ok.injEq] at h
    subst h
    simp [hc]

/-- The page made from a `changed` request is a forced-break page and, unless it has to be a blank
    page, carries the requested name. -/
theorem next_page_carries_name (ltr : Bool) (index : Nat) (s : PState) (hc : s.nb.changed = true) :
    (pageInfo ltr index s).forced = true ∧
    ((pageInfo ltr index s).blank = false → (pageInfo ltr index s).name = s.nb.pg) := by
  unfold pageInfo
  simp only
  refine ⟨by simp [hc], ?_⟩
  intro hb
  simp [hb]

/-- regression example (F12-1): leaving page `n1` for the unnamed page forces a break -/
example : nameStop (.para { pg := 1 } [1]) (.para { pg := 0 } [2]) = true := by decide

/-- regression example: … and entering a named page from the unnamed page does too -/
example : nameStop (.para { pg := 0 } [1]) (.para { pg := 2 } [2]) = true ∧
    nameStop (.para { pg := 2 } [1]) (.para { pg := 2 } [2]) = false := by decide

/-! ## @page selectors and the cascade -/

/-- `:nth(an+b)` with Go's truncating division matches page index i (1-based i+1) iff
    i+1 = a·n+b for some n ≥ 0 — for all integers a, b. -/
theorem page_nth_match (a b : Int) (index : Nat) :
    nthMatch a b index = true ↔ ∃ n : Nat, (index : Int) + 1 = a * n + b := by
  have e : ∀ n : Nat, (index : Int) + 1 = a * n + b ↔ (index : Int) + 1 - b = a * n := fun n => by omega
  simp only [nthMatch, e]
  by_cases ha : a = 0
  · simp [ha]
  · simp only [ha, if_false, Bool.and_eq_true, decide_eq_true_eq]
    exact tdiv_nonneg_and_tmod_zero_iff _ a ha

/-- Every value the cascade gives a page comes from a declaration of a rule one of whose selectors
    matches that page ("the styles selected by the @page rules that match it"). -/
theorem cascaded_from_matching_rule (rules : List Rule) (p : PageInfo) (prop : PProp) (v : Len)
    (h : cascaded rules p prop = some v) :
    ∃ r ∈ rules, ∃ s ∈ r.sels, s.matches p = true ∧ ∃ d ∈ r.decls, d.prop = prop ∧ d.val = v := by
  obtain ⟨⟨w, v⟩, hf, rfl⟩ := Option.map_eq_some_iff.1 h
  rcases cascade_fold_mem prop _ none w v hf with h0 | ⟨wd, hm, hp, hv⟩
  · cases h0
  · simp only [applicable, List.mem_flatMap, List.mem_filter, List.mem_map] at hm
    obtain ⟨r, hr, s, ⟨hs, hmatch⟩, d, hd, rfl⟩ := hm
    exact ⟨r, hr, s, hs, hmatch, d, hd, hp, hv⟩

example : cascaded [{ sels := [{}], decls := [{ prop := .mTop, val := .px 10 }] },
                    { sels := [{ first := true }], decls := [{ prop := .mTop, val := .px 5 }] }]
    { index := 0, right := true, blank := false, name := 0, forced := false } .mTop = some (.px 5) := by decide

/-- specificity orders named > :first/:blank > :left/:right, as css-page-3 prescribes -/
theorem specificity_order :
    Weight.le (weightOf { side := some true } ⟨.mTop, .auto, false⟩) (weightOf { first := true } ⟨.mTop, .auto, false⟩) = true ∧
    Weight.le (weightOf { first := true } ⟨.mTop, .auto, false⟩) (weightOf { name := 1 } ⟨.mTop, .auto, false⟩) = true ∧
    Weight.le (weightOf { name := 1 } ⟨.mTop, .auto, false⟩) (weightOf { first := true } ⟨.mTop, .auto, false⟩) = false := by
  decide

/-! ## page box geometry -/

/-- **Page box equation.**  Unless all three of margin, size, margin are given (over-constrained: the
    code then keeps them and the margin box no longer coincides with the sheet), margin + border + padding
    + content size + padding + border + margin fill the containing size exactly, on both axes (`pb` = the
    page box's padding plus border on the axis: top AND bottom, left AND right); `auto` values are resolved
    as CSS Page 3 states. -/
theorem page_box_equation (cb pb : Rat) (mA inner mB : Option Rat) (h : mA = none ∨ inner = none ∨ mB = none) :
    (pageWidthOrHeight cb pb mA inner mB).mA + pb + (pageWidthOrHeight cb pb mA inner mB).inner
      + (pageWidthOrHeight cb pb mA inner mB).mB = cb := by
  cases inner with
  | none => simp only [pageWidthOrHeight]; grind
  | some i =>
    cases mA with
    | none => cases mB <;> simp only [pageWidthOrHeight] <;> grind
    | some a =>
      cases mB with
      | none => simp only [pageWidthOrHeight]; grind
      | some b => simp at h

/-- the clause for a page box of auto size with different top and bottom (left and right) decorations: what
    is taken off the sheet is the sum of ALL FOUR of border-before, padding-before, padding-after, border-after -/
theorem page_box_equation_deco (cb : Rat) (d : Deco) (mA mB : Option Rat) :
    (pageWidthOrHeight cb d.sum mA none mB).mA + d.bA + d.pA + (pageWidthOrHeight cb d.sum mA none mB).inner
      + d.pB + d.bB + (pageWidthOrHeight cb d.sum mA none mB).mB = cb := by
  have := page_box_equation cb d.sum mA none mB (Or.inr (Or.inl rfl))
  simp only [Deco.sum] at this ⊢
  grind

example : pageWidthOrHeight 200 0 none (some 100) none = { mA := 50, inner := 100, mB := 50 } := by
  simp only [pageWidthOrHeight, Oriented.mk.injEq]; grind

example : (pageWidthOrHeight 200 ({ bA := 4, pA := 6, bB := 20 } : Deco).sum (some 10) none (some 10)).inner = 150 := by
  simp only [pageWidthOrHeight, Deco.sum, Option.getD_some]; grind

/-- given values are kept -/
theorem page_box_given (cb pb a i b : Rat) :
    pageWidthOrHeight cb pb (some a) (some i) (some b) = { mA := a, inner := i, mB := b } := rfl

/-- auto margins with an auto size are zero -/
theorem page_auto_margins_zero (cb pb : Rat) :
    pageWidthOrHeight cb pb none none none = { mA := 0, inner := cb - pb, mB := 0 } := by
  simp only [pageWidthOrHeight, Option.getD_none, Oriented.mk.injEq]; grind

/-! ## counters -/

/-- With no author manipulation of the `page` counter, `counter(page)` on the k-th page (0-based) is
    k+1 (the list has one entry per page: `runCounters_length`). -/
theorem page_counter_is_index (ops : List CounterOps) (hall : ∀ o ∈ ops, o = {}) (k : Nat) (h : k < ops.length) :
    (runCounters ops 0)[k]'(by rw [runCounters_length]; exact h) = (k : Int) + 1 := by
  have := runCounters_default ops 0 hall k (by rw [runCounters_length]; exact h)
  simpa using this

example : runCounters [{}, { incr := some 2 }, { reset := some 7 }] 0 = [1, 3, 7] := by decide

/-- A margin box's counter manipulation is scoped to that box: a box without counter-* declarations shows
    the page's own value — the page index + 1 by `page_counter_is_index` — whatever the boxes generated
    before it on the same page do. -/
theorem margin_box_counter_scoped (boxes : List CounterOps) (v : Int) (k : Nat) (h : k < boxes.length)
    (hk : boxes[k] = {}) : (marginValues boxes v)[k]'(by simpa [marginValues] using h) = v := by
  simp [marginValues, hk, boxCounter]

example : marginValues [{ incr := some 10 }, {}, { set := some 7 }, {}] 3 = [13, 3, 7, 3] := by decide

/-! ## early_end_justified: why a page ends where it ends (class-F model, every oracle)

   FULL STATEMENT (the ideal reading of the property; false for the code and therefore for the model in
   the two exempted situations below — recorded as KF12-2, KF12-3, KF12-4):

     whenever a page ends before the content is exhausted, a forced break (break-before/after:
     page/left/right/recto/verso, change of page name) is there, or the next unbreakable unit — line,
     orphans/widows group, break-inside:avoid box, boxes glued by break-*:avoid — does not fit:
     its bottom, with the trailing padding / border of the boxes it closes, would lie below the page's
     content box; and no box's border box extends below the content box when an earlier break exists.

   PROVED (in parts, with the exact exemptions):
   * a paragraph's fragment ends only because the next line does not fit, lines are taken back only as
     `widows` asks, it is cancelled only on a non-empty page for orphans / widows  (`line_end_justified`);
   * the child loop stops before a child only at a forced break / change of page name or because placing
     the child failed (`stop_before_child_justified`); placing fails only if the child is cancelled, its
     content box overflows, or the second layout with more bottom space is cancelled
     (`child_attempt_fails_iff`); nothing is ever cancelled on an empty page (C02 `root_never_aborts`);
   * what "does not fit" means for the geometry of blocks.go (`geo_line_does_not_fit_iff`,
     `geo_child_overflow_iff`);
   * EXEMPTION 1 (`first_on_page_unchecked`, KF12-3): the first box of a page is accepted without any
     overflow test, so its border box may extend below the page;
   * EXEMPTION 2 (`second_layout_unchecked`, KF12-2 / KF12-4): after the second layout (more bottom space
     for the child's padding / border) no overflow test is made; the oracle `exit` of blocks.go counts the
     last child's bottom margin into the height, which pushes a whole breakable box to the next page
     (KF12-2) or its border box below the page (KF12-4). -/

/-- A paragraph's page fragment ends only because the oracle says the next line does not fit (after `k`
    lines have been placed, with something already on the page), the lines taken back are exactly those
    `widows` asks for, and the paragraph is cancelled only on a non-empty page when orphans / widows
    cannot be met. -/
theorem line_end_justified (O : Oracle γ) (st : St) (pie : Bool) (rest : List Nat) (j : Nat) (new : List FLine) (g : γ) :
    let r := layLines O st pie rest j new g
    (r.abort = false → r.stop = false → r.new = (placeN O pie rest j rest.length new g).1) ∧
    (r.stop = true → ∃ k l rest', LineStop O st pie rest j new g k l rest' ∧
        r.new = afterWidows st (placeN O pie rest j k new g).1 rest'.length) ∧
    (r.abort = true → ∃ k l rest', LineStop O st pie rest j new g k l rest' ∧ pie = false ∧
        ((placeN O pie rest j k new g).1.length < st.orph ∨
         (placeN O pie rest j k new g).1.length < widowsNeeded st rest'.length + st.orph)) :=
  layLines_justified O st pie rest j new g

/-- The child loop stops right before a child only at a forced break / change of page name, or because
    the attempt to place the child failed (and the break before it is not to be avoided). -/
theorem stop_before_child_justified (O : Oracle γ) (c p : Box) (ks : Boxes) (index i0 : Nat) (sub : RS) (g g' : γ)
    (pie : Bool) (nb nb' : NextPage) (hi : ¬ index < i0)
    (h : layKids O (.cons c ks) index i0 sub (some p) g pie nb = .ok .nil (some (.at index .start)) g' none nb') :
    ((between p c).isForce = true ∨ nameStop p c = true) ∨
    ((between p c).isAvoid = false ∧
      ∃ nbA, attempt O (fun g'' => layBox O c (if index = i0 then sub else RS.start) g'' false) g false = .abort nbA) :=
  stop_before_kid_justified O c p ks index i0 sub g g' pie nb nb' hi h

/-- Placing a child fails exactly when the child is cancelled, or — something being on the page — its
    content box overflows, or its padding / border overflows and the second layout is cancelled. -/
theorem child_attempt_fails_iff (O : Oracle γ) (lay : γ → BOut γ) (g : γ) (pie' : Bool) (nb : NextPage) :
    attempt O lay g pie' = .abort nb ↔
      lay g = .abort nb ∨
      (∃ br, lay g = .ok br ∧ O.collThrough br.g = false ∧ pie' = false ∧ O.overC g br.g = true ∧ nb = br.nb) ∨
      (∃ br, lay g = .ok br ∧ O.collThrough br.g = false ∧ pie' = false ∧ O.overC g br.g = false ∧
          O.overB g br.g = true ∧ lay (O.bump g br.g) = .abort nb) :=
  attempt_abort_iff O lay g pie' nb

/-- "The line does not fit" for the geometry of blocks.go: its bottom — plus the paragraph's bottom
    padding and border if it is the last line — lies below the page bottom minus the bottom space. -/
theorem geo_line_does_not_fit_iff (c : PageCtx) (g : G) (isLast : Bool) :
    (geo c).lineOver g isLast = true ↔
      g.yIter + c.lineH + (if isLast then g.cur.bb + g.cur.pb else 0) > c.bottom - g.bs :=
  decide_eq_true_iff

/-- "The child overflows": the bottom of its content box, resp. of its border box, lies below the page bottom
    minus the bottom space. -/
theorem geo_child_overflow_iff (c : PageCtx) (g gc : G) :
    ((geo c).overC g gc = true ↔ gc.last.contentY + gc.last.height > c.bottom - g.bs) ∧
    ((geo c).overB g gc = true ↔ gc.last.borderBoxY + gc.last.borderHeight > c.bottom - g.bs) :=
  ⟨decide_eq_true_iff, decide_eq_true_iff⟩

/-- EXEMPTION 1 (KF12-3): on an empty page the attempt is the child's layout, no overflow test is made. -/
theorem first_on_page_unchecked (O : Oracle γ) (lay : γ → BOut γ) (g : γ) : attempt O lay g true = lay g :=
  attempt_true O lay g

/-- EXEMPTION 2 (KF12-2 / KF12-4): the result of the second layout is taken as it is. -/
theorem second_layout_unchecked (O : Oracle γ) (lay : γ → BOut γ) (g : γ) (br : BRes γ)
    (h1 : lay g = .ok br) (hct : O.collThrough br.g = false) (hc : O.overC g br.g = false) (hb : O.overB g br.g = true) :
    attempt O lay g false = lay (O.bump g br.g) := by
  unfold attempt
  rw [h1]
  simp [hct, hc, hb]

/-- witness of the deviation: an oracle under which every border box overflows — the first child of a
    page and the result of a second layout are accepted all the same (seventh field: `overB`, always true;
    `overC` before it always false) -/
def overflowingOracle : Oracle Unit :=
  ⟨fun _ _ _ _ g => g, fun _ _ => false, fun g _ _ => (g, 0), fun _ g => g, fun _ => false,
   fun _ _ => false, fun _ _ => true, fun g _ => g, fun g _ => g, fun _ g => g, fun _ _ _ _ g => g⟩

theorem deviation_witness :
    (∃ br, attempt overflowingOracle (fun g => layBox overflowingOracle (.para {} [1, 2]) .start g true) () true = .ok br
        ∧ overflowingOracle.overB () br.g = true) ∧
    (∃ br, attempt overflowingOracle (fun g => layBox overflowingOracle (.para {} [1, 2]) .start g false) () false = .ok br
        ∧ overflowingOracle.overB () br.g = true) :=
  ⟨⟨_, rfl, rfl⟩, ⟨_, rfl, rfl⟩⟩

/-! ## avoid_honoured_if_possible: `avoid` is best effort, with an exact search

   The rule the code uses (WeasyPrint's): when a child cannot be placed and the break before it is
   `avoid` (break-before / break-after: avoid on the meeting edges), `findEarlierPageBreak` looks — last
   child first — for the last conforming break among the children already laid out on this page
   (between siblings whose combined value is not `avoid`, or inside a child whose break-inside is not
   `avoid`: recursively, and in a paragraph the cut that leaves `widows` lines after and at least `orphans`
   before).  If it finds one the page ends there.  If not, the block is cancelled on a non-empty page (the
   search goes on in the parent) and on an empty page the `avoid` is ignored. -/

/-- The candidate every complete layout result carries is `findEarlierPageBreak` on the fragments built
    (the unwinding formulation of the model is extensionally Go's search on the laid-out boxes). -/
theorem earlier_break_is_findEarlier (O : Oracle γ) (b : Box) (s : RS) (g : γ) (pie : Bool) (br : BRes γ)
    (h : layBox O b s g pie = .ok br) (hres : br.resume = none) : br.eb = br.frag.findEB :=
  layBox_eb O b s g pie br h hres

/-- the search succeeds exactly when a conforming break exists among the fragments (declarative rule) -/
theorem findEarlier_finds_iff_conforming_break (fs : Frags) : fs.findEB.isSome = fs.hasBreak :=
  Frags.findEB_isSome fs

/-- **avoid honoured if possible.**  The child loop gives up on an `avoid` (result `need`: the break before
    child `fail` should be avoided and is taken all the same or handed to the parent) only when no
    conforming break exists among the children placed on this page; then the block is cancelled on a
    non-empty page and the `avoid` is ignored on an empty page. -/
theorem avoid_honoured_if_possible (O : Oracle γ) (st : St) (ks : Boxes) (s : RS) (g : γ) (pie : Bool)
    (fs : Frags) (fail : Nat) (g' : γ) (nbF : NextPage) (pgc : Nat)
    (h : layKids O ks 0 (startIdx s) (startSub s) none (O.enter st false s.isStart pie g) pie {} = .need fs fail g' nbF pgc) :
    fs.hasBreak = false ∧
    (pie = false → layBox O (.block st ks) s g pie = .abort { pg := pgc }) ∧
    (pie = true → layBox O (.block st ks) s g pie = finishBlock O st g pie fs (some (.at fail .start)) g' none nbF) := by
  have hk := layKids_eb O ks 0 (startIdx s) (startSub s) none (O.enter st false s.isStart pie g) pie {}
  rw [h] at hk
  refine ⟨?_, ?_, ?_⟩
  · rw [← Frags.findEB_isSome, show fs.findEB = none from hk]; rfl
  · intro hp; rw [layBox, h]; simp [hp]
  · intro hp; rw [layBox, h]; simp [hp]

/-- a `need` only ever starts at a break that is to be avoided, after something was placed -/
theorem need_only_at_avoid (pb : Brk) (prev : Option Box) (index : Nat) (g : γ) (pgc : Nat) (nbF : NextPage)
    (fs : Frags) (fl : Nat) (g' : γ) (nb' : NextPage) (pg' : Nat)
    (h : failOut pb prev index g pgc nbF = KOut.need fs fl g' nb' pg') : pb.isAvoid = true ∧ prev.isSome = true := by
  unfold failOut at h
  by_cases ha : pb.isAvoid = true
  · refine ⟨ha, ?_⟩
    cases prev with
    | none => simp [ha] at h
    | some p => rfl
  · simp only [ha, Bool.false_eq_true, if_false] at h
    split at h <;> simp at h

example : Frags.hasBreak (.cons 0 (.para {} [1, 2]) (.para {} [⟨1, some 1, 0⟩, ⟨2, none, 0⟩])
    (.cons 1 (.para { bb := .avoid } [3]) (.para { bb := .avoid } [⟨3, none, 0⟩]) .nil)) = false := by decide

/-! ## class F: conservation under any @page rule set -/

/-- whatever the @page rules are, the pages the driver computes conserve the document's lines -/
theorem paginateWith_conserves (rules : List Rule) (lineH : Int) (ltr : Bool) (root : Box) (fuel : Nat)
    (hd : (paginateWith rules lineH ltr root fuel).done = true) :
    pagesLeaves (paginateWith rules lineH ltr root fuel).pages = root.leaves := by
  have := (pagesLoop_conserve (geoPages lineH (dimsOf rules)) ltr root fuel 0 (initState ltr root)).2 hd
  simpa [paginateWith, paginate, initState, Box.from_start] using this

/-- … and the page loop always ends: for every well-formed class-F document, every @page rule set and
    line height, `2·#lines+1` pages suffice and the pages are the document's lines (C02 `paginate_progress`
    at the instance the C12 driver executes) -/
theorem paginateWith_total (rules : List Rule) (lineH : Int) (ltr : Bool) (root : Box) (hwf : root.wf = true) :
    (paginateWith rules lineH ltr root (2 * root.leaves.length + 1)).done = true ∧
    pagesLeaves (paginateWith rules lineH ltr root (2 * root.leaves.length + 1)).pages = root.leaves := by
  have hd := paginate_done (geoPages lineH (dimsOf rules)) ltr root hwf
  exact ⟨hd, paginateWith_conserves rules lineH ltr root _ hd⟩

end WR.Props.C12
