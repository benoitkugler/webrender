/-
  C08 — property theorems.  Nothing but statements of the property and their proofs
  (helper lemmas: WR/C08/Lemmas.lean; acyclic environments: WR/C08/LemmasAcyclic.lean).  All theorems are about the definitions the driver
  `wrm_c08` executes (WR/C08/Model.lean) and hold for every parameter table `P` (the real
  validators are the parameter `P.V`; nothing is assumed about them unless stated).
-/
import WR.C08.LemmasAcyclic
namespace WR.Props.C08
open WR.C08

/-! ## bad declarations are dropped alone -/

/-- PreprocessDeclarations is the concatenation of what each declaration yields on its own. -/
theorem preprocess_each_alone (P : Params) (cs : List Compound) :
    preprocess P cs = cs.flatMap (compoundOut P) := by
  induction cs with
  | nil => rfl
  | cons c rest ih => simp [preprocess, ih]

theorem preprocess_append (P : Params) (a b : List Compound) :
    preprocess P (a ++ b) = preprocess P a ++ preprocess P b := by
  simp [preprocess_each_alone]

/-- `drop_isolated`: a rejected declaration (unknown property, invalid value, unsupported prefix,
    empty value, any non-declaration) at ANY position of ANY block changes nothing for the others. -/
theorem drop_isolated (P : Params) (a b : List Compound) (bad : Compound)
    (h : compoundOut P bad = []) :
    preprocess P (a ++ [bad] ++ b) = preprocess P (a ++ b) := by
  simp [preprocess_each_alone, h]

/-- the hypothesis of `drop_isolated` is satisfiable non-trivially: an unknown property -/
example : compoundOut exampleParams
    (.decl { name := "zz-unknown", value := [.dim "12" "px"], important := false }) = [] := by rfl

/-- every entry of the output comes from one declaration of the block, whatever surrounds it -/
theorem output_local (P : Params) (cs : List Compound) (o : Out) :
    o ∈ preprocess P cs ↔ ∃ c ∈ cs, o ∈ compoundOut P c := by
  simp [preprocess_each_alone, List.mem_flatMap]

/-! ## spelling -/

/-- property names are compared after ASCII lower-casing (custom properties excepted) -/
theorem name_case_insensitive (P : Params) (n₁ n₂ : String) (v : List Tok) (i : Bool)
    (h₁ : hasPrefix "--" n₁ = false) (h₂ : hasPrefix "--" n₂ = false) (h : lower n₁ = lower n₂) :
    declOut P { name := n₁, value := v, important := i } = declOut P { name := n₂, value := v, important := i } := by
  simp [declOut, effectiveName, h₁, h₂, h]

example : hasPrefix "--" "MARGIN-Top" = false ∧ lower "MARGIN-Top" = lower "margin-top" := by decide +kernel

/-- whitespace and comments between the component values of a declaration are irrelevant —
    unconditionally, for every property and shorthand -/
theorem whitespace_irrelevant (P : Params) (n : String) (v₁ v₂ : List Tok) (i : Bool)
    (h : removeWhitespace v₁ = removeWhitespace v₂) :
    declOut P { name := n, value := v₁, important := i } = declOut P { name := n, value := v₂, important := i } := by
  simp [declOut, h]

example : removeWhitespace [.ws, .dim "1" "px", .comment "c", .ws, .ident "auto"]
    = removeWhitespace [.dim "1" "px", .ws, .ident "auto", .ws] := by rfl

/-- inserting whitespace or comments anywhere between the values does not change the result -/
theorem insert_whitespace (P : Params) (n : String) (a b : List Tok) (w : Tok) (i : Bool) (hw : w.isWs = true) :
    declOut P { name := n, value := a ++ w :: b, important := i } = declOut P { name := n, value := a ++ b, important := i } := by
  apply whitespace_irrelevant
  simp [removeWhitespace, List.filter_append, hw]

/-
  spelling_invariant (full statement, NOT proved in full):
    let `norm` map every token to its canonical spelling (idents other than `--*`, units and function
    names ASCII-lower-cased, whitespace/comments inside functions dropped).  If every parameter of `P`
    (V, X, XO, growShrink, isBasis, intZero) gives the same answer on `ts` and on `ts.map norm`,
    then for every declaration d:  declOut P d  and  declOut P (d with value := d.value.map norm)
    are equal up to `norm` of the pending raw values.
  Proved below: the name part and the top-level whitespace part unconditionally (above), and the
  token part for longhands (`spelling_invariant_partial`): the general statement additionally needs
  the invariance of every modelled expander's token shuffling under `norm`, which is not done.
  The hypothesis on the REAL validators is what the metamorphic run P1 checks; it cannot be proved
  without modelling 150 validators.
-/

/-- for a longhand: if the validator table does not distinguish two token lists (and they agree on
    what the model itself inspects: presence of var(), the single keyword), neither does the result -/
theorem spelling_invariant_partial (P : Params) (n : String) (v₁ v₂ : List Tok) (i : Bool)
    (hsh : ∀ m, P.shorthand m = none)
    (hcustom : ∀ m, effectiveName P n = some m → hasPrefix "--" m = false)
    (hvar₁ : hasVarList (removeWhitespace v₁) = false) (hvar₂ : hasVarList (removeWhitespace v₂) = false)
    (hempty : (removeWhitespace v₁ = []) ↔ (removeWhitespace v₂ = []))
    (hkw : getSingleKeyword (removeWhitespace v₁) = getSingleKeyword (removeWhitespace v₂))
    (hV : ∀ m, P.V m (removeWhitespace v₁) = P.V m (removeWhitespace v₂)) :
    declOut P { name := n, value := v₁, important := i } = declOut P { name := n, value := v₂, important := i } := by
  simp only [declOut]
  cases hen : effectiveName P n with
  | none => rfl
  | some m =>
    by_cases e₁ : removeWhitespace v₁ = []
    · simp [e₁, hempty.mp e₁]
    · have e₂ : ¬ removeWhitespace v₂ = [] := fun h => e₁ (hempty.mpr h)
      simp only [e₁, e₂, if_false, hsh]
      rw [validateNonShorthand_congr P false (hcustom m hen) hvar₁ hvar₂ hkw (hV m)]

/-! ## shorthands yield the longhands CSS assigns -/

/-- `four_sides_spec`: the model's side assignment is the CSS 2.1 one: 1→(a,a,a,a), 2→(a,b,a,b),
    3→(a,b,c,b), 4→(a,b,c,d), anything else is rejected -/
theorem four_sides_spec (tokens : List Tok) :
    (fourOf tokens).map (fun (a, b, c, d) => [[a], [b], [c], [d]]) = specFourSides tokens := by
  match tokens with
  | [] => rfl
  | [_] => rfl
  | [_, _] => rfl
  | [_, _, _] => rfl
  | [_, _, _, _] => rfl
  | _ :: _ :: _ :: _ :: _ :: _ => simp [fourOf, specFourSides, specSides]

/-- the expander: without var(), `sh: tokens` yields exactly the four longhands validated on the
    token CSS assigns to each side, in the order top, right, bottom, left; and is rejected as a
    whole when the count is not 1–4 or one side is invalid -/
theorem four_sides_expand (P : Params) (sh n0 n1 n2 n3 : String) (tokens : List Tok)
    (hv : hasVarList tokens = false) :
    expandFourSides P sh [n0, n1, n2, n3] tokens =
      match specFourSides tokens with
      | some [a, b, c, d] =>
        match validateNonShorthand P n0 a true, validateNonShorthand P n1 b true,
              validateNonShorthand P n2 c true, validateNonShorthand P n3 d true with
        | some r0, some r1, some r2, some r3 => some [toOut r0, toOut r1, toOut r2, toOut r3]
        | _, _, _, _ => none
      | _ => none := by
  rw [← four_sides_spec]
  simp only [expandFourSides, findVar, hv, Bool.false_eq_true, if_false]
  cases fourOf tokens <;> rfl

/-- `border_radius_spec`: the corner pairs of the model are those of CSS Backgrounds 3 §5.1
    (when every corner validates; `none` on both sides for a trailing or second `/`) -/
theorem border_radius_spec (P : Params) (tokens : List Tok)
    (hvalid : ∀ n ts, (validateNonShorthand P n ts true).isSome = true) :
    (borderRadius P tokens).map (fun l => l.map (·.2)) = specBorderRadius tokens := by
  exact borderRadius_eq_spec P tokens hvalid

example : (borderRadius exampleParams
    [.dim "1" "px", .dim "2" "px", .lit "/", .dim "3" "px"]).map (fun l => l.map (·.2))
    = some [[.dim "1" "px", .dim "3" "px"], [.dim "2" "px", .dim "3" "px"], [.dim "1" "px", .dim "3" "px"], [.dim "2" "px", .dim "3" "px"]] := by
  simp [borderRadius, splitSlash, Tok.isSlash, fourOf, validateNonShorthand, exampleParams, hasPrefix, hasVarList, hasVar,
    getSingleKeyword, getKeyword]

/-- a generic expander yields exactly its longhands, in order -/
theorem generic_names (P : Params) (names : List String) (results : List (String × List Tok)) (os : List Out)
    (h : genericFinish P results names = some os) : os.map (·.name) = names := by
  exact genericFinish_names P names results os h

/-- a longhand the wrapped expander did not mention is reset to `initial` -/
theorem generic_resets_missing (P : Params) (names : List String) (results : List (String × List Tok)) (os : List Out)
    (h : genericFinish P results names = some os) (n : String) (hn : n ∈ names) (hmiss : results.lookup n = none) :
    { name := n, value := .initial, shorthand := "", important := false } ∈ os := by
  exact genericFinish_missing P names results os h n hn hmiss

/-- `inherit` on a generic shorthand sets every longhand to `inherit` (`initial` goes the same way in the model) -/
theorem generic_css_wide (P : Params) (names : List String) (w : List Tok → Option (List (String × List Tok)))
    (sh : String) (t : Tok) (h : getKeyword t = "inherit") :
    genericExpander P names w sh [t] =
      some (names.map fun n => { name := n, value := .inherit, shorthand := "", important := false }) := by
  simp [genericExpander, getSingleKeyword, h]

/-- a wrapped expander that names a longhand twice, or a foreign longhand, invalidates the shorthand -/
theorem generic_duplicate_rejected (names : List String) (n : String) (a b : List Tok)
    (rest acc : List (String × List Tok)) (hn : names.contains n = true) (hacc : acc.lookup n = none) :
    collect names ((n, a) :: (n, b) :: rest) acc = none := by
  have hm : n ∈ names := by simpa using hn
  simp [collect, hm, hacc, List.lookup_append]

theorem generic_unknown_rejected (names : List String) (n : String) (a : List Tok)
    (rest acc : List (String × List Tok)) (hn : names.contains n = false) :
    collect names ((n, a) :: rest) acc = none := by
  have : n ∉ names := by simpa using hn
  simp [collect, this]

/-! ## flex -/

/-- `flex: none` = `0 0 auto` -/
theorem flex_none (P : Params) (t : Tok) (h : getKeyword t = "none") :
    expandFlex P [t] = some [("flex-grow", [.num "0"]), ("flex-shrink", [.num "0"]), ("flex-basis", [.ident "auto"])] := by
  simp [expandFlex, getSingleKeyword, h]

/-- a single flex factor: shrink defaults to 1, basis to 0 -/
theorem flex_single_factor (P : Params) (t : Tok) (g : String) (hk : getKeyword t ≠ "none")
    (hb : P.isBasis t = false) (hg : P.growShrink t = some g) :
    expandFlex P [t] = some [("flex-grow", [.num g]), ("flex-shrink", [.num "1"]), ("flex-basis", [.dim "0" "px"])] := by
  simp [expandFlex, getSingleKeyword, hk, flexLoop, hb, hg]

/-- a single basis: grow and shrink default to 1 -/
theorem flex_single_basis (P : Params) (t : Tok) (hk : getKeyword t ≠ "none")
    (hz : P.intZero t = false) (hb : P.isBasis t = true) :
    expandFlex P [t] = some [("flex-grow", [.num "1"]), ("flex-shrink", [.num "1"]), ("flex-basis", [t])] := by
  simp [expandFlex, getSingleKeyword, hk, flexLoop, hb, hz]

/-- a third flex factor is rejected -/
theorem flex_third_factor_rejected (P : Params) (a b c d : Tok) (ga gb : String)
    (ha : P.isBasis a = false) (hga : P.growShrink a = some ga)
    (hb : P.isBasis b = false) (hgb : P.growShrink b = some gb)
    (hc : P.isBasis c = false) :
    expandFlex P [a, b, c, d] = none := by
  simp [expandFlex, getSingleKeyword, flexLoop, ha, hga, hb, hgb, hc]

/-! ## var() -/

/- Termination on ALL environments, cyclic ones included, is part of the definitions (`expandVar` is accepted by
   well-founded recursion on the number of custom properties not being substituted; `resTok`/`resList`/`resFallback`
   are structural). -/

/-- what a cycle yields: a reference to a custom property that is being substituted is replaced by nothing -/
theorem cyclic_reference_cut (expand : String → List String → Option (List Tok)) (inProg : List String)
    (v : String) (args : List Tok) (rest : List Tok)
    (hname : hasPrefix "--" v = true)
    (hargs : parseArgs args false = some (.ident v :: rest)) (hin : inProg.contains v = true) :
    resTok expand inProg (.fn "var" args) = some [] := by
  rw [resTok_var expand inProg lower_var hname hargs, if_pos hin]

/-- self reference: `--a: var(--a)`, used as `width: var(--a)`: the pending value resolves to no
    token at all, hence is invalid at computed-value time (inherited / initial value) -/
theorem self_cycle_invalid (P : Params) (prop sh : String) :
    cascadePending P [("--a", [.fn "var" [.ident "--a"]])] prop sh [.fn "var" [.ident "--a"]] = .invalid [] := by
  exact cascadePending_of_empty P prop sh (by c08_eval)

/-- two-cycle `--a: var(--b); --b: var(--a)` -/
theorem two_cycle_invalid (P : Params) (prop sh : String) :
    cascadePending P [("--a", [.fn "var" [.ident "--b"]]), ("--b", [.fn "var" [.ident "--a"]])] prop sh
      [.fn "var" [.ident "--a"]] = .invalid [] := by
  exact cascadePending_of_empty P prop sh (by c08_eval)

/-- `var_is_substitution` (part 1): a reference to a defined custom property whose value has no
    var() is replaced by exactly the tokens of the value; the fallback is ignored -/
theorem var_defined (env : Bindings) (v : String) (args rest val : List Tok)
    (hname : hasPrefix "--" v = true)
    (hargs : parseArgs args false = some (.ident v :: rest))
    (hdef : env.lookup v = some val) (hne : val ≠ []) (hplain : hasVarList val = false) :
    resolveVar env (.fn "var" args) = some val := by
  rw [resolveVar, resTok_var _ _ lower_var hname hargs, expandVar_some env v _ val hdef hne, resList_plain _ _ val hplain]
  rfl

/-- (part 2): an undefined reference is replaced by its fallback: everything after the first comma of
    the raw arguments, whitespace/comments dropped, the fallback's own commas kept -/
theorem var_fallback (env : Bindings) (v : String) (args : List Tok)
    (hname : hasPrefix "--" v = true)
    (hundef : env.lookup v = none)
    (hplain : hasVarList args = false) (rest : List Tok)
    (hargs : parseArgs args false = some (.ident v :: rest)) :
    resolveVar env (.fn "var" args) = some (resFallback (expandVar env) [v] args false) := by
  rw [resolveVar, resTok_var _ _ lower_var hname hargs, expandVar_none env v _ hundef]
  rfl

/-- (part 2, explicit): `var(--v , fb…)` with `--v` undefined and a fallback without var(): the result is
    the fallback with whitespace/comments dropped and ITS OWN COMMAS PRESERVED -/
theorem var_fallback_commas_preserved (env : Bindings) (v : String) (fb rest : List Tok)
    (hname : hasPrefix "--" v = true)
    (hundef : env.lookup v = none)
    (hplain : hasVarList fb = false)
    (hargs : parseArgs (.ident v :: .lit "," :: fb) false = some (.ident v :: rest)) :
    resolveVar env (.fn "var" (.ident v :: .lit "," :: fb)) = some (removeWhitespace fb) := by
  have hp : hasVarList (.ident v :: .lit "," :: fb) = false := by simp [hasVarList, hasVar, hplain]
  rw [var_fallback env v _ hname hundef hp rest hargs]
  simp [resFallback, resFallback_plain _ _ fb hplain]

example : resolveVar [] (.fn "var" [.ident "--u", .lit ",", .ws, .ident "Arial", .lit ",", .ws, .ident "serif"])
    = some [.ident "Arial", .lit ",", .ident "serif"] := by c08_eval

/-- (part 3): an undefined reference without fallback yields no token; alone in a declaration this
    is "no value": invalid at computed-value time -/
theorem var_undefined_invalid (P : Params) (prop sh v : String)
    (hname : hasPrefix "--" v = true) :
    cascadePending P [] prop sh [.fn "var" [.ident v]] = .invalid [] := by
  refine cascadePending_of_empty P prop sh ?_
  have hargs : parseArgs [.ident v] false = some [.ident v] := by simp [parseArgs]
  rw [solveTokens, resList_cons, resTok_var _ _ lower_var hname hargs, expandVar_none [] v _ rfl]
  simp [resList, resFallback]

/-! ### the cycle guard is path based: it never cuts a second, legal reference -/

/-- sibling independence: every token of a value is resolved with the same set of custom properties
    in progress, whatever was substituted before it (a guard remembering every name ever visited
    would break this) -/
theorem siblings_independent (env : Bindings) (a b : List Tok) :
    solveTokens env (a ++ b) = solveTokens env a ++ solveTokens env b :=
  resList_append _ _ a b

/-- a value written twice resolves to the result written twice: repeated references are legal -/
theorem repeated_reference (env : Bindings) (ts : List Tok) :
    solveTokens env (ts ++ ts) = solveTokens env ts ++ solveTokens env ts :=
  resList_append _ _ ts ts

/-- the same inside the value of another custom property, a function or a fallback (any in-progress set) -/
theorem repeated_reference_nested (e : String → List String → Option (List Tok)) (ip : List String) (ts : List Tok) :
    resList e ip (ts ++ ts) = resList e ip ts ++ resList e ip ts :=
  resList_append e ip ts ts

/-- `acyclic_never_cut` (depth one, any path): a reference to a defined custom property with a var()-free
    value is cut ONLY when its own name is in progress; otherwise it is its value, whatever else is in
    progress -/
theorem acyclic_never_cut_partial (env : Bindings) (ip : List String) (v : String) (args rest val : List Tok)
    (hname : hasPrefix "--" v = true)
    (hargs : parseArgs args false = some (.ident v :: rest))
    (hnot : ip.contains v = false)
    (hdef : env.lookup v = some val) (hne : val ≠ []) (hplain : hasVarList val = false) :
    resTok (expandVar env) ip (.fn "var" args) = some val := by
  rw [resTok_var _ ip lower_var hname hargs, hnot, expandVar_some env v _ val hdef hne, resList_plain _ _ val hplain]
  rfl

/-- `acyclic_never_cut`: in an environment without dependency cycle (`rk` strictly decreases along
    references) a reference to a defined custom property is NEVER cut: it resolves to the value of the
    property resolved exactly as a top-level value (full environment, nothing in progress) — whatever
    the value contains: repeated references, diamonds, nested functions, fallbacks. -/
theorem acyclic_never_cut (E : Bindings) (rk : String → Nat) (hE : Acyclic E rk)
    (name v : String) (args rest l : List Tok)
    (hn : lower name = "var") (hname : hasPrefix "--" v = true)
    (hargs : parseArgs args false = some (.ident v :: rest))
    (hdef : E.lookup v = some l) (hne : l ≠ []) :
    resolveVar E (.fn name args) = some (solveTokens E l) := by
  rw [resolveVar, resTok_var _ _ hn hname hargs, expandVar_some E v _ l hdef hne,
    value_resolved_as_top E rk hE v l [] (by simp) hdef]
  rfl

/-- the guard is irrelevant in an acyclic environment: with ANY set of higher-ranked custom properties in
    progress and their bindings erased, a value resolves as at top level -/
theorem acyclic_guard_irrelevant (E : Bindings) (rk : String → Nat) (hE : Acyclic E rk) (v : String)
    (l : List Tok) (ip : List String) (hip : ∀ u ∈ ip, rk v ≤ rk u) (hdef : E.lookup v = some l) :
    resList (expandVar (E.without v)) (v :: ip) l = solveTokens E l :=
  value_resolved_as_top E rk hE v l ip hip hdef

/-- `var_is_substitution` for acyclic environments: `S = solveTokens E` satisfies the defining equations
    of textual substitution — it distributes over the tokens of a value, leaves tokens without var()
    alone, descends into functions, replaces a reference to a defined custom property by the
    substituted value of that property, and an undefined one by its substituted fallback.  Only the fourth
    equation needs the environment to be acyclic. -/
theorem var_is_substitution (E : Bindings) (rk : String → Nat) (hE : Acyclic E rk) :
    (∀ a b, solveTokens E (a ++ b) = solveTokens E a ++ solveTokens E b) ∧
    (∀ t, hasVar t = false → solveTokens E [t] = [t]) ∧
    (∀ name args, hasVar (.fn name args) = true → lower name ≠ "var" →
        solveTokens E [.fn name args] = [.fn name (solveTokens E args)]) ∧
    (∀ name v args rest l, lower name = "var" → hasPrefix "--" v = true →
        parseArgs args false = some (.ident v :: rest) → E.lookup v = some l → l ≠ [] →
        solveTokens E [.fn name args] = solveTokens E l) ∧
    (∀ name v args rest, lower name = "var" → hasPrefix "--" v = true →
        parseArgs args false = some (.ident v :: rest) → E.lookup v = none →
        solveTokens E [.fn name args] = resFallback (expandVar E) [v] args false) := by
  refine ⟨fun a b => resList_append _ _ a b, ?_, ?_, ?_, ?_⟩
  · intro t ht
    exact resList_plain _ _ [t] (by simp [hasVarList, ht])
  · intro name args hv hn
    rw [solveTokens, resList_cons, resTok_fn _ _ hv hn]
    rfl
  · intro name v args rest l hn hname hargs hdef hne
    have := acyclic_never_cut E rk hE name v args rest l hn hname hargs hdef hne
    rw [resolveVar] at this
    rw [solveTokens, resList_cons, this]
    exact List.append_nil _
  · intro name v args rest hn hname hargs hundef
    rw [solveTokens, resList_cons, resTok_var _ _ hn hname hargs, expandVar_none E v _ hundef]
    exact List.append_nil _

/-- the hypothesis is satisfiable: a diamond-shaped environment is acyclic -/
example : Acyclic [("--d", [.dim "1" "px"]), ("--b", [.fn "var" [.ident "--d"]]), ("--c", [.fn "var" [.ident "--d"]]),
                   ("--a", [.fn "var" [.ident "--b"], .fn "var" [.ident "--c"]])]
    (fun v => if v = "--a" then 2 else if v = "--b" then 1 else if v = "--c" then 1 else 0) := by
  apply acyclic_of_forall
  simp [mrefsL, mrefs, parseArgs, lower_var]

/-
  What is NOT proved: the identification of these equations with the executable specification
  `specResolve` token by token (the two read malformed argument lists differently: a function
  ParseFunction rejects is opaque to the model, the specification descends into it; whitespace inside a
  fallback), and the case of the undefined reference's fallback resolved with nothing in progress.
  On the shapes the harness generates, model and specification are compared at run time (P4).
-/

/-- `--pair: var(--x) var(--x)`; `margin: 1px 2px var(--pair)`: model = specification -/
theorem repeated_in_variable_agrees_with_spec :
    solveTokens [("--x", [.dim "3" "px"]), ("--pair", [.fn "var" [.ident "--x"], .fn "var" [.ident "--x"]])]
        [.dim "1" "px", .dim "2" "px", .fn "var" [.ident "--pair"]]
      = [.dim "1" "px", .dim "2" "px", .dim "3" "px", .dim "3" "px"] ∧
    specResolve [("--x", [.dim "3" "px"]), ("--pair", [.fn "var" [.ident "--x"], .fn "var" [.ident "--x"]])] 100
        [.dim "1" "px", .dim "2" "px", .fn "var" [.ident "--pair"]]
      = .toks [.dim "1" "px", .dim "2" "px", .dim "3" "px", .dim "3" "px"] := by
  constructor
  · c08_eval
  · rfl

/-- diamond `--a → --b, --c → --d`, a function with two references, a fallback reusing a variable -/
theorem diamond_agrees_with_spec :
    solveTokens [("--d", [.dim "1" "px"]), ("--b", [.fn "var" [.ident "--d"]]), ("--c", [.fn "var" [.ident "--d"]]),
                 ("--a", [.fn "var" [.ident "--b"], .fn "var" [.ident "--c"]])]
        [.fn "var" [.ident "--a"], .fn "f" [.fn "var" [.ident "--d"], .lit ",", .fn "var" [.ident "--d"]],
         .fn "var" [.ident "--u", .lit ",", .fn "var" [.ident "--d"]]]
      = [.dim "1" "px", .dim "1" "px", .fn "f" [.dim "1" "px", .lit ",", .dim "1" "px"], .dim "1" "px"] ∧
    specResolve [("--d", [.dim "1" "px"]), ("--b", [.fn "var" [.ident "--d"]]), ("--c", [.fn "var" [.ident "--d"]]),
                 ("--a", [.fn "var" [.ident "--b"], .fn "var" [.ident "--c"]])] 100
        [.fn "var" [.ident "--a"], .fn "f" [.fn "var" [.ident "--d"], .lit ",", .fn "var" [.ident "--d"]],
         .fn "var" [.ident "--u", .lit ",", .fn "var" [.ident "--d"]]]
      = .toks [.dim "1" "px", .dim "1" "px", .fn "f" [.dim "1" "px", .lit ",", .dim "1" "px"], .dim "1" "px"] := by
  have hf : lower "f" = "f" := by decide
  constructor
  · c08_eval
  · rfl

/-- tokens without var() are left alone by the pending-value loop -/
theorem no_var_identity (env : Bindings) (ts : List Tok) (h : hasVarList ts = false) :
    solveTokens env ts = ts := resList_plain _ _ ts h

/-- chains: `--a: var(--b); --b: 10px`; `width: var(--a)` ⇒ `10px` -/
example : solveTokens [("--a", [.fn "var" [.ident "--b"]]), ("--b", [.dim "10" "px"])] [.fn "var" [.ident "--a"]]
    = [.dim "10" "px"] := by c08_eval

/-- var() nested two function levels deep is substituted (the shape that used to recurse forever) -/
example : solveTokens [("--a", [.num "10"])]
      [.fn "rgb" [.fn "calc" [.fn "var" [.ident "--a"]], .lit ",", .num "0", .lit ",", .num "0"]]
    = [.fn "rgb" [.fn "calc" [.num "10"], .lit ",", .num "0", .lit ",", .num "0"]] := by
  have hrgb : lower "rgb" = "rgb" := by decide
  have hcalc : lower "calc" = "calc" := by decide
  c08_eval

/-
  var_is_substitution (full statement, NOT proved): for every `env` and every token list `ts`,
    specResolve env fuel ts = .toks r  →  solveTokens env ts ≈ r   and
    specResolve env fuel ts = .invalid →  cascadePending … = .invalid,
  for a fuel larger than the unfolding.  It is FALSE on the current code in one documented way
  (negation witness below; KF08-4): a CYCLIC reference inside a longer value is replaced by nothing
  instead of invalidating the declaration.  The parts above are the proved fragment.
  (An UNDEFINED reference without fallback inside a longer value is also replaced by nothing —
  `padding: var(--undef) 2px` computes 2px — which CSS Variables calls invalid at computed-value time;
  the property text is silent there, the spec follows the code.)
-/

/-- witness (KF08-4): `--s: var(--s)`, `padding: var(--s) 2px` resolves to `2px`; the property text
    says a cyclic reference is invalid at computed-value time -/
theorem witness_cyclic_reference_dropped :
    solveTokens [("--s", [.fn "var" [.ident "--s"]])] [.fn "var" [.ident "--s"], .dim "2" "px"] = [.dim "2" "px"] ∧
    specResolve [("--s", [.fn "var" [.ident "--s"]])] 100 [.fn "var" [.ident "--s"], .dim "2" "px"] = .invalid := by
  constructor
  · c08_eval
  · rfl

/-- a cyclic reference alone, with a fallback: both the model and the specification end invalid -/
theorem cyclic_with_fallback_invalid :
    solveTokens [("--s", [.fn "var" [.ident "--s"]])] [.fn "var" [.ident "--s", .lit ",", .dim "2" "px"]] = [] ∧
    specResolve [("--s", [.fn "var" [.ident "--s"]])] 100 [.fn "var" [.ident "--s", .lit ",", .dim "2" "px"]]
      = .invalid := by
  constructor
  · c08_eval
  · rfl

/-- the commas of a fallback are kept: model and specification agree (was KF08-6, fixed bdd6432) -/
theorem fallback_commas_agree_with_spec :
    solveTokens [] [.fn "var" [.ident "--u", .lit ",", .ident "Arial", .lit ",", .ident "serif"]]
      = [.ident "Arial", .lit ",", .ident "serif"] ∧
    specResolve [] 100 [.fn "var" [.ident "--u", .lit ",", .ident "Arial", .lit ",", .ident "serif"]]
      = .toks [.ident "Arial", .lit ",", .ident "serif"] := by
  constructor
  · c08_eval
  · rfl

end WR.Props.C08
