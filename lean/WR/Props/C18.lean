/-
  C18 — SVG shapes and paths are drawn with the geometry SVG defines.
  The property theorems and the examples that show their hypotheses can be met; helper lemmas live in
  WR/C18/Lemmas*.lean.  All statements are about the definitions the driver `wrm_c18` executes
  (WR/C18/Model.lean, WR/C18/Spec.lean).
-/
import WR.C18.Lemmas
import WR.C18.LemmasView
namespace WR.Props.C18
open WR.C18 WR.C18.Spec WR.C18.Lemmas

/-! ## number scanner (consumeNumber / parsePoints) -/

/-- progress / termination: the fuel `len+1` the model gives the scanner loop is never exhausted -/
theorem scanner_progress (arc : Bool) (n : Nat) (s : List Char) :
    (scan arc (s.length + 1) n s).isSome = true :=
  scan_fuel arc (s.length + 1) n s (by omega)

/-- the scanner never reads past a number and loses nothing: tokens and skipped bytes, in order,
    are exactly the input -/
theorem scanner_partition (arc : Bool) (fuel n : Nat) (s : List Char) (ps : List Piece)
    (h : scan arc fuel n s = some ps) : ps.flatMap Piece.chars = s := by
  rw [(scan_pieces arc fuel n s).1 ps h, pieces_concat]

example : ∃ ps, scan false 8 0 "1-2.5.5".toList = some ps := ⟨_, rfl⟩

/-- one number token is a prefix of the input: `consumeNumber` splits, it does not rewrite -/
theorem scanner_token_prefix (isFlag : Bool) (c : Char) (cs : List Char) :
    (consumeNumber isFlag c cs).1 ++ (consumeNumber isFlag c cs).2 = c :: cs :=
  consumeNumber_concat isFlag c cs

/-- compact forms: `1-2.5.5` is 1, −2.5, .5 -/
theorem scanner_compact_example :
    (scan false 8 0 "1-2.5.5".toList).map tokens = some ["1".toList, "-2.5".toList, ".5".toList] ∧
    (match parsePoints false "1-2.5.5".toList with | .ok v => v == [1, -5/2, 1/2] | _ => false) = true := by
  constructor
  · decide
  · decide +kernel

/-- arc flags are single digits: `0 1110 10` after rx ry is rotation 0, flags 1 1, then 10 10 -/
theorem scanner_flags_example :
    (scan true 20 0 "5 5 0 1110 10".toList).map tokens =
      some ["5".toList, "5".toList, "0".toList, "1".toList, "1".toList, "10".toList, "10".toList] := by
  decide

/-! ## quadratic → cubic elevation -/

/-- the cubic the code emits for a quadratic segment (control points p0+⅔(p1−p0), p2+⅔(p1−p2)) IS the
    quadratic Bézier: equal at every parameter t, in both coordinates; the spec uses the same cubic -/
theorem quad_elevation (p0 c p : Pt) (t : Rat) :
    ∃ c1 c2, quadraticToCubic p0 c p = .cubicTo c1 c2 p ∧ Spec.elevate p0 c p = .cubicTo c1 c2 p ∧
      cubicAt p0.1 c1.1 c2.1 p.1 t = quadAt p0.1 c.1 p.1 t ∧
      cubicAt p0.2 c1.2 c2.2 p.2 t = quadAt p0.2 c.2 p.2 t :=
  ⟨_, _, rfl, rfl, elevation_identity _ _ _ _, elevation_identity _ _ _ _⟩

/-! ## path interpreter = SVG segment semantics -/

/-- FULL statement: for every command list of the SVG grammar (a moveto first, every command with at least
    one argument group — any number of groups, absolute and relative, arcs included as opaque arc segments)
    the code's interpreter, run on the commands as it sees them (command byte + flat number list), produces
    exactly the operations of the specification — implicit repetition of argument groups, a moveto's extra
    pairs as linetos, H/V, S/T reflection only after C/S resp. Q/T, quadratic elevation, closepath back to
    the sub-path start (also for a sub-path continued without a new moveto), zero-radius arcs as lines,
    arcs ending exactly at each group's end point — and ends with the same current point and sub-path start. -/
theorem path_model_eq_spec (cmds : List Cmd) (hg : grammatical cmds = true) :
    ∃ m, runSegs {} (cmds.map toRaw) = .ok (m, (Spec.run cmds).2) ∧
      m.cur = (Spec.run cmds).1.cur ∧ m.start = (Spec.run cmds).1.start := by
  cases cmds with
  | nil => exact ⟨{}, rfl, rfl, rfl⟩
  | cons c r =>
    cases c with
    | move rel ps =>
      simp only [grammatical, List.all_cons, Bool.and_eq_true] at hg
      obtain ⟨m1, e1, s1⟩ := cmd_sim {} {} false (.move rel ps) ⟨rfl, rfl, rfl, rfl, rfl⟩ hg.1 (by simp)
      obtain ⟨m2, e2, s2⟩ := cmds_sim r m1 _ s1 hg.2
      simp only [List.map_cons, Spec.run, List.flatMap_cons, interp_append, runSegs, e1, e2]
      exact ⟨m2, rfl, s2.cur, s2.start⟩
    | _ => simp [grammatical] at hg

example : grammatical [.move false [(0, 0), (4, 0), (4, 4)], .close, .line false [(8, 8)], .close,
    .quad true [((2, 2), (4, 0)), ((1, 1), (2, 0))], .smoothQuad false [(8, 0), (12, 0)],
    .arc false [⟨10, 10, 0, false, true, (10, 10)⟩, ⟨20, 5, 0, false, false, (30, 10)⟩]] = true := by decide

/-- state after each command: one command of the model and its expansion in the spec stay in the
    simulation relation (current point, sub-path start, open flag, reflected control points) -/
theorem path_command_simulation (m : St) (s : SSt) (o : Bool) (c : Cmd) (h : Sim m s o)
    (ha : c.hasArgs = true) (hc : c = .close → o = true) :
    ∃ m', addSeg m (toRaw c).1 (toRaw c).2 = .ok (m', (interp s (expand c)).2) ∧
      Sim m' (interp s (expand c)).1 (o || isMove c) :=
  cmd_sim m s o c h ha hc

/-- a moveto's extra pairs are linetos: what the spec (hence, by `path_model_eq_spec`, the code) draws for
    `M p q1 q2 …` -/
theorem moveto_implicit_lineto (p : Pt) (r : List Pt) :
    (Spec.run [.move false (p :: r)]).2 = .moveTo p :: r.map .lineTo ∧
    (Spec.run [.move false (p :: r)]).1.cur = lastD p r ∧ (Spec.run [.move false (p :: r)]).1.start = p := by
  simp only [Spec.run, List.flatMap_cons, List.flatMap_nil, List.append_nil, expand, interp, step, lines_interp]
  simp [toAbs, absOrP]

/-- regression example (former defect KF18-4): `M0 0 L4 0 4 4 Z L8 8 Z l1 1` — the second closepath
    closes again and the current point returns to (0,0), so the relative lineto ends at (1,1) -/
theorem closepath_reopen_example :
    let cmds : List Cmd := [.move false [(0, 0)], .line false [(4, 0), (4, 4)], .close,
                            .line false [(8, 8)], .close, .line true [(1, 1)]]
    (match runSegs {} (cmds.map toRaw) with
      | .ok (m, ops) => ops == [.moveTo (0, 0), .lineTo (4, 0), .lineTo (4, 4), .close, .lineTo (8, 8), .close,
                                .lineTo (1, 1)] && m.cur == (1, 1)
      | _ => false) = true := by
  decide +kernel

/-! ## arcs

  That the emitted cubics lie on the ellipse involves atan2/sin/cos/sqrt in floating point: judged
  numerically by the harness (ellipse equation within 1e-4, 5e-4 for the one-cubic-per-quarter curves of the
  basic shapes; swept angle), not proved. -/

/-- every argument group of an absolute A command yields the spec's segment for that group — an arc ending
    exactly at the group's end point (the harness checks that the last emitted cubic ends exactly there), a
    straight line for a zero radius, nothing when the end point is the current point — and the current
    point ends at the LAST group's end point -/
theorem arc_endpoints (m : St) (s : SSt) (g : Arc) (r : List Arc) (h : m.cur = s.cur) :
    ∃ m', addSeg m 'A' (flat7 (g :: r)) = .ok (m', (interp s ((g :: r).map (.arc false))).2) ∧
      m'.cur = (lastD g r).p := by
  have e := arc_loop false (g :: r) m s h
  exact ⟨_, (addSeg_arc m false g r).trans (by simp only [e]; rfl), absArcs_cur r g s⟩

/-- one argument group, non-degenerate: the arc op and the new current point, spelled out -/
theorem arc_single_group (m : St) (rx ry rot l s x y : Rat)
    (hrx : rx ≠ 0) (hry : ry ≠ 0) (hne : (x, y) ≠ m.cur) :
    addSeg m 'A' [rx, ry, rot, l, s, x, y] =
      .ok ({ m with cur := (x, y), lastKey := 'A' }, [.arc rx ry rot (l != 0) (s != 0) (x, y)]) := by
  simp [addSeg, sevens, arcLoop, hrx, hry, hne]

example : ((3 : Rat), (4 : Rat)) ≠ ({} : St).cur := by decide +kernel

/-- relative form: the end point is the current point plus the offset -/
theorem arc_single_group_relative (m : St) (rx ry rot l s x y : Rat)
    (hrx : rx ≠ 0) (hry : ry ≠ 0) (hne : padd m.cur (x, y) ≠ m.cur) :
    addSeg m 'a' [rx, ry, rot, l, s, x, y] =
      .ok ({ m with cur := padd m.cur (x, y), lastKey := 'a' },
           [.arc rx ry rot (l != 0) (s != 0) (padd m.cur (x, y))]) := by
  simp [addSeg, sevens, arcLoop, hrx, hry, hne]

/-- regression example (former defects KF18-1, KF18-5): `M0 0 A10 10 0 0 1 10 10 20 5 0 0 0 30 10 0 5 0 0 1 4 4`:
    the second group is drawn with its own parameters and ends at (30,10); the zero-radius group is a line -/
theorem arc_multi_group_example :
    (match addSeg {} 'A' [10, 10, 0, 0, 1, 10, 10, 20, 5, 0, 0, 0, 30, 10, 0, 5, 0, 0, 1, 4, 4] with
      | .ok (m, ops) => m.cur == (4, 4) &&
          ops == [.arc 10 10 0 false true (10, 10), .arc 20 5 0 false false (30, 10), .lineTo (4, 4)]
      | _ => false) = true := by
  decide +kernel

/-- regression example (former defects KF18-2, KF18-3): `1E1` and `1e+1` are single numbers -/
theorem exponent_forms_example :
    (match parsePath "M1E1 2L1e+1 3".toList with
      | .ok (_, ops) => ops == [.moveTo (10, 2), .lineTo (10, 3)]
      | _ => false) = true := by
  decide +kernel

/-! ## from STRINGS to operations (string level: literals, scanner, segmentation)

  Not proved: that the spec's BNF parser `Spec.parse` returns the same command list on these texts
  (`parse_model_eq_spec`); its number reader is proved (`number_model_eq_spec`), the group/command level of
  the recursive-descent parser is only tested (the harness checks Spec.parse = the generator's command list
  on every generated string).  Arc commands (flags are single digits) are excluded from `SCmd.ok`. -/

/-- one number literal of the SVG grammar, followed by anything that cannot continue it: the code's scanner
    cuts exactly the literal, the spec's reader reads exactly the literal, and strconv's value (model) is the
    spec's value — for every literal whose value fits float32 -/
theorem number_model_eq_spec (l : Lit) (hw : l.WF) (rest : List Char) (hs : l.stops rest)
    (hsm : l.expSmall) (hov : f32Overflow l.value = false) :
    (match l.chars ++ rest with
      | [] => False
      | c :: cs => consumeNumber false c cs = (l.chars, rest)) ∧
    Spec.readNumber true (l.chars ++ rest) = some (l.value, rest) ∧
    parseFloat l.chars = some l.value :=
  ⟨consumeNumber_lit l hw rest hs, readNumber_lit l hw rest hs, parseFloat_lit l hw hsm hov⟩

/-- the literal `-2.5e+1` followed by `.5` (compact form: the second dot starts a new number) -/
def exLit : Lit := { neg := true, ip := ['2'], dot := true, fp := ['5'], ex := some ('e', some '+', ['1']) }

example : exLit.WF ∧ exLit.stops ".5".toList ∧ exLit.expSmall ∧ exLit.chars = "-2.5e+1".toList :=
  ⟨⟨by simp [allDigits, exLit], by simp [allDigits, exLit], by simp [exLit], by simp [exLit],
      by simp [allDigits, exLit]⟩,
   by simp [Lit.stops, exLit], by simp [Lit.expSmall, exLit, natOf], by decide⟩

/-- any sequence of well-formed literals with any bytes the scanner skips between them
    (each literal followed by something that ends it) is read by `parsePoints` as exactly the literals' values -/
theorem scanner_reads_literals (items : List Item) (hc : chainOk items) (hv : valuesOk items) :
    parsePoints false (render items) = .ok (items.map fun it => it.1.value) :=
  parsePoints_lead [] items (fun _ h => nomatch h) hc hv

/-- the compact text `1-2.5.5 ` is such a sequence: three literals, no separator between them -/
example : render exItems = "1-2.5.5 ".toList ∧ chainOk exItems := ⟨by decide, exItems_chain⟩

/-- segmentation: `parsePath` cuts the text exactly at the command letters (e / E are not commands) -/
theorem parse_segmentation (cs : List SCmd)
    (h : ∀ c ∈ cs, isCmd c.letter = true ∧ noCmd c.lead ∧ ∀ it ∈ c.items, it.1.WF ∧ noCmd it.2) :
    splitSegs (renderCmds cs) = ([], cs.map fun c => (c.letter, c.args)) :=
  splitSegs_render cs h

/-- from STRINGS to operations: the text of well-formed non-arc commands whose letters and literal values are
    the commands `cmds` (as the code sees them) is drawn by `parsePath` with exactly the spec's operations -/
theorem path_string_model_eq_spec (cs : List SCmd) (cmds : List Cmd) (h : ∀ c ∈ cs, c.ok)
    (hraw : cmds.map toRaw = cs.map fun c => (c.letter, c.values)) (hg : grammatical cmds = true) :
    ∃ m, parsePath (renderCmds cs) = .ok (m, (Spec.run cmds).2) ∧
      m.cur = (Spec.run cmds).1.cur ∧ m.start = (Spec.run cmds).1.start := by
  rw [parsePath_render cs h, ← hraw]
  exact path_model_eq_spec cmds hg

/-! ## arcs: radii too small for the chord -/

/-- `findEllipseCenter` (x1', y1' = half chord in the ellipse's frame, `sq` = the square root it takes): when
    the requested ellipse does not reach the end point the radii the code goes on with — for the centre AND,
    written back to the argument slot, for the cubics of `addArc` — are both scaled by the same factor
    k = √λ of SVG F.6.6 (k² = x1'²/rx² + y1'²/ry²), and on the scaled ellipse the chord fits exactly (λ' = 1) -/
theorem arc_radii_scaled (ra rb x1p y1p sq : Rat) (hra : ra ≠ 0) (hrb : rb ≠ 0)
    (hsq : sq * sq = x1p * (rb / ra) * (x1p * (rb / ra)) + y1p * y1p)
    (hlt : rb * rb < x1p * (rb / ra) * (x1p * (rb / ra)) + y1p * y1p) :
    let k := sq / rb
    scaleRadii ra rb x1p y1p sq = (k * ra, k * rb) ∧
    k * k = x1p * x1p / (ra * ra) + y1p * y1p / (rb * rb) ∧
    x1p * x1p / ((k * ra) * (k * ra)) + y1p * y1p / ((k * rb) * (k * rb)) = 1 := by
  have hs := sq_ne rb _ sq hsq hlt
  refine ⟨?_, ?_, ?_⟩
  · simp only [scaleRadii, hlt, if_true]
    by_cases h : ra = rb
    · subst h; simp; grind
    · have : (ra == rb) = false := by simpa using h
      simp [this]; constructor <;> grind
  · grind
  · grind

/-- `M0 0 A 3 4 0 0 1 10 0` in the ellipse's frame: half chord (5, 0), radii 3, 4: midlenSq = (5·4/3)², sq = 20/3 -/
example : (20 / 3 : Rat) * (20 / 3) = 5 * (4 / 3) * (5 * (4 / 3)) + 0 * 0 ∧
    (4 : Rat) * 4 < 5 * (4 / 3) * (5 * (4 / 3)) + 0 * 0 ∧ scaleRadii 3 4 5 0 (20 / 3) = (5, 20 / 3) := by
  refine ⟨by decide +kernel, by decide +kernel, by decide +kernel⟩

/-- radii that reach the end point are kept -/
theorem arc_radii_kept (ra rb x1p y1p sq : Rat)
    (h : ¬ rb * rb < x1p * (rb / ra) * (x1p * (rb / ra)) + y1p * y1p) :
    scaleRadii ra rb x1p y1p sq = (ra, rb) := by
  simp [scaleRadii, h]

/-! ## viewBox / preserveAspectRatio -/

/-- the code's `resolveTransforms` is SVG's equivalent transform for every viewBox of positive size -/
theorem viewbox_model_eq_spec (pr : PAR) (W H : Rat) (vb : VB) (hw : 0 < vb.w) (hh : 0 < vb.h) :
    resolveTransforms pr W H (some vb) = Spec.equivalentTransform pr W H vb := by
  have h1 : (vb.w != 0) = true := by simp; grind
  have h2 : (vb.h != 0) = true := by simp; grind
  obtain ⟨x, y, n, s⟩ := pr
  have hy (a b c : Rat) : (if n then a else if n then b else c) = if n then a else c := by cases n <;> rfl
  -- the model subtracts the origin's image from the alignment offset, the spec adds the offset to it
  have ht (a b : Rat) : a - b = 0 - b + a := by grind
  simp only [resolveTransforms, equivalentTransform, h1, h2, if_true, hy, XF.mk.injEq, true_and]
  constructor
  · cases x
    · rfl
    · exact ht _ _
    · exact ht _ _
  · cases y
    · rfl
    · exact ht _ _
    · exact ht _ _

example : (0 : Rat) < (⟨0, 0, 50, 100⟩ : VB).w ∧ (0 : Rat) < (⟨0, 0, 50, 100⟩ : VB).h := by decide +kernel

/-- meet: uniform scale = min of the two ratios; the scaled viewBox fits inside the viewport and touches
    one pair of sides -/
theorem viewbox_meet (pr : PAR) (W H : Rat) (vb : VB) (hw : 0 < vb.w) (hh : 0 < vb.h)
    (hn : pr.none = false) (hs : pr.slice = false) :
    let t := resolveTransforms pr W H (some vb)
    t.sx = rmin (W / vb.w) (H / vb.h) ∧ t.sy = t.sx ∧
    vb.w * t.sx ≤ W ∧ vb.h * t.sy ≤ H ∧ (vb.w * t.sx = W ∨ vb.h * t.sy = H) := by
  have h1 : vb.w ≠ 0 := by grind
  have h2 : vb.h ≠ 0 := by grind
  simp only [resolveTransforms, hn, hs, bne_iff_ne, ne_eq, h1, h2, not_false_eq_true, if_true, Bool.false_eq_true, if_false]
  refine ⟨trivial, trivial, ?_, ?_, ?_⟩
  · exact mul_le_of_le_div _ _ _ hw (rmin_le_left _ _)
  · exact mul_le_of_le_div _ _ _ hh (rmin_le_right _ _)
  · rcases rmin_eq (W / vb.w) (H / vb.h) with e | e
    · left; rw [e]; exact mul_div_self W vb.w h1
    · right; rw [e]; exact mul_div_self H vb.h h2

/-- slice: uniform scale = max of the two ratios; the scaled viewBox covers the viewport and matches it
    in one direction -/
theorem viewbox_slice (pr : PAR) (W H : Rat) (vb : VB) (hw : 0 < vb.w) (hh : 0 < vb.h)
    (hn : pr.none = false) (hs : pr.slice = true) :
    let t := resolveTransforms pr W H (some vb)
    t.sx = rmax (W / vb.w) (H / vb.h) ∧ t.sy = t.sx ∧
    W ≤ vb.w * t.sx ∧ H ≤ vb.h * t.sy ∧ (vb.w * t.sx = W ∨ vb.h * t.sy = H) := by
  have h1 : vb.w ≠ 0 := by grind
  have h2 : vb.h ≠ 0 := by grind
  simp only [resolveTransforms, hn, hs, bne_iff_ne, ne_eq, h1, h2, not_false_eq_true, if_true, Bool.false_eq_true, if_false]
  refine ⟨trivial, trivial, ?_, ?_, ?_⟩
  · exact le_mul_of_div_le _ _ _ hw (le_rmax_left _ _)
  · exact le_mul_of_div_le _ _ _ hh (le_rmax_right _ _)
  · rcases rmax_eq (W / vb.w) (H / vb.h) with e | e
    · left; rw [e]; exact mul_div_self W vb.w h1
    · right; rw [e]; exact mul_div_self H vb.h h2

/-- none: independent scales, the viewBox is stretched onto the whole viewport -/
theorem viewbox_none (pr : PAR) (W H : Rat) (vb : VB) (hw : 0 < vb.w) (hh : 0 < vb.h) (hn : pr.none = true) :
    let t := resolveTransforms pr W H (some vb)
    vb.w * t.sx = W ∧ vb.h * t.sy = H := by
  have h1 : vb.w ≠ 0 := by grind
  have h2 : vb.h ≠ 0 := by grind
  simp only [resolveTransforms, hn, bne_iff_ne, ne_eq, h1, h2, not_false_eq_true, if_true]
  exact ⟨mul_div_self W vb.w h1, mul_div_self H vb.h h2⟩

/-- alignment: where the viewBox's min corner lands — min: at the viewport's origin side, mid: centred,
    max: flush with the far side -/
theorem viewbox_align (pr : PAR) (W H : Rat) (vb : VB) :
    let t := resolveTransforms pr W H (some vb)
    (t.tx + vb.x * t.sx = match pr.x with
      | .min => 0
      | .mid => (W - vb.w * t.sx) / 2
      | .max => W - vb.w * t.sx) ∧
    (t.ty + vb.y * t.sy = match pr.y with
      | .min => 0
      | .mid => (H - vb.h * t.sy) / 2
      | .max => H - vb.h * t.sy) := by
  have hc (a b : Rat) : a - b + b = a := by grind
  obtain ⟨x, y, n, s⟩ := pr
  simp only [resolveTransforms]
  exact ⟨by cases x <;> exact hc _ _, by cases y <;> exact hc _ _⟩

/-- the ROOT element without a viewBox: whatever its width / height attributes (absent, percentage, or an
    absolute length that is then the viewport's size) and whatever preserveAspectRatio, user space
    coincides with the viewport — the mapping handed to the backend is the identity -/
theorem root_without_viewbox_identity (pr : PAR) (W H : Rat) (w h : Option Rat)
    (hw : ∀ x, w = some x → x = W ∧ 0 < x) (hh : ∀ y, h = some y → y = H ∧ 0 < y) :
    rootTransform pr W H none w h = ⟨1, 1, 0, 0⟩ := by
  cases w with
  | none => rfl
  | some x =>
    cases h with
    | none => rfl
    | some y =>
      obtain ⟨rfl, px⟩ := hw x rfl
      obtain ⟨rfl, py⟩ := hh y rfl
      exact resolveTransforms_viewport pr x y px py

/-- `<svg width="100%" height="100">` in a 300 px wide container: identity (not a shift by half the width) -/
example : rootTransform ⟨.mid, .mid, false, false⟩ 300 100 none none (some 100) = ⟨1, 1, 0, 0⟩ := by decide +kernel

/-! ## `<use>` resolution -/

/-- resolution with the in-use set terminates: following `<use>` references recurses at most
    |defs|+1 deep — the model's fuel is never exhausted, whatever the reference graph (cycles are cut) -/
theorem use_terminates (defs : List (Nat × Node)) (root : Node) : process defs root ≠ .error .fuel := by
  unfold process
  apply processWith_ne_fuel
  intro id
  apply follow_ne_fuel
  have := unused_le (defs.map (·.1)) []
  simp at this; omega

/-- a cyclic reference is cut (reported), a missing one is ignored -/
theorem use_cycle_cut_example :
    process [(1, .group (some 1) [.use (some 2)]), (2, .group (some 2) [.use (some 1)])]
        (.group none [.use (some 1), .shape 7]) = .error .recursive ∧
    process [(1, .group (some 1) [.shape 3])] (.group none [.use (some 1), .use (some 9), .shape 7]) = .ok [3, 7] := by
  constructor <;> rfl

/-! ## cyclic clip-path / mask / marker references (SVGImage.guard) -/

/-- drawing with the in-progress key set terminates: guarded references recurse at most |defs|+1 deep
    (a reference whose key is in progress is ignored) -/
theorem guard_cycle_terminates (defs : List (Nat × Node)) (root : Node) :
    drawGuarded defs root ≠ .error .fuel := by
  unfold drawGuarded
  apply processWith_ne_fuel
  intro id
  apply followGuard_ne_fuel
  have := unused_le (defs.map (·.1)) []
  simp at this; omega

/-- a clip-path cycle of length 2 on a shape: each definition's content is drawn once, then the cycle is
    ignored and the shape itself is drawn -/
theorem guard_cycle_example :
    drawGuarded [(0, .group none [.use (some 1), .shape 3]), (1, .group none [.use (some 0), .shape 4])]
        (.group none [.use (some 0), .shape 77]) = .ok [4, 3, 77] := by
  rfl

end WR.Props.C18
