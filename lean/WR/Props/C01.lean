/-
  C01 — property theorems (termination / totality of the loop-carrying cores).  The models are in
  WR/C01/Model.lean and are the very definitions the driver `wrm_c01` executes.
-/
import WR.C01.Lemmas
namespace WR.Props.C01
open WR.C01

/-! ## root discovery (tree.go:60-68) -/

/-- For every child list `html.Parse` can produce (optional doctype, any number of comments, the element
    `html`, any number of comments) `NewHTML` returns the element, at its position: nothing before it is
    ever returned. -/
theorem root_found_index (dt : Bool) (pre post : Nat) :
    pickRoot (parseShape dt pre post) = .node ((if dt then 1 else 0) + pre) (.element "html") := by
  have hlen : ((if dt then [Kind.doctype] else []) ++ List.replicate pre Kind.comment).length
      = (if dt then 1 else 0) + pre := by
    rw [List.length_append, List.length_replicate]; cases dt <;> rfl
  rw [parseShape, List.append_assoc, List.singleton_append, pickRoot_first_element _ _ _ (parseShape_prefix_no_element dt pre), hlen]

/-- … in particular some node holding `html` is returned -/
theorem root_found (dt : Bool) (pre post : Nat) :
    ∃ i, pickRoot (parseShape dt pre post) = .node i (.element "html") :=
  ⟨_, root_found_index dt pre post⟩

/-- never a nil dereference: without any element the result is the error value -/
theorem root_no_element_is_error (ks : List Kind) (h : ∀ k ∈ ks, ∀ t, k ≠ .element t) : pickRoot ks = .error := by
  rw [pickRoot, ← List.append_nil ks, pickRoot_go_skip ks [] h, pickRoot.go]

/-- Record of the defect found by the proof attempt and repaired in d4860cc: the former code
    selected a leading comment (both inputs are corpus cases replayed on every run). -/
theorem root_found_failed_before_d4860cc :
    pickRootBefore (parseShape false 1 0) = .node 0 .comment ∧ pickRootBefore (parseShape true 1 0) = .node 1 .comment := by
  decide

/-- old and new code agree whenever no comment precedes the element -/
theorem root_before_agrees (dt : Bool) (post : Nat) :
    pickRootBefore (parseShape dt 0 post) = pickRoot (parseShape dt 0 post) := by
  rw [root_found_index]; cases dt <;> rfl

example : pickRoot (parseShape true 2 2) = .node 3 (.element "html") := by decide

/-! ## page loop (pages.go makeAllPages / remakePage) -/

/-- If every non-blank page strictly advances the resume position in a
    well-founded order (measure `μ`: content units left), the page loop ends, after at most
    `2·μ(start) + 2` pages — every content page may be preceded by at most one blank page, because a
    blank page flips the page side and keeps the pending break, so it is never followed by
    another blank page.  (`n` content units ⇒ at most `n+1` content pages ⇒ `2·n+2` pages.) -/
theorem page_loop_progress {Pos : Type} (layoutPage : LayoutPage Pos) (μ : Pos → Nat)
    (progress : ∀ p r p' w, layoutPage p r = (some p', w) → μ p' < μ p)
    (s : PageState Pos) (fuel : Nat) (hfuel : 2 * μ s.resume + 2 ≤ fuel) :
    ∃ pages, pageLoop layoutPage fuel s 0 = some pages ∧ pages ≤ 2 * μ s.resume + 2 := by
  have hs := (pagesLeft_le μ s).2
  obtain ⟨k, hk, hle⟩ := pageLoop_terminates layoutPage μ progress fuel s 0 (by omega)
  exact ⟨k, hk, by omega⟩

/-- A blank page is never followed by a blank page. -/
theorem blank_not_repeated {Pos : Type} (s : PageState Pos) (h : isBlank s = true) :
    isBlank ({ s with right := !s.right } : PageState Pos) = false :=
  isBlank_flip s h

/-- The hypothesis of `page_loop_progress` is satisfiable by a non-trivial layout function: the
    block-list layout the driver executes (first block of a page always placed — the `pageIsEmpty`
    rule), with `μ` = number of blocks left. -/
theorem blockLayout_progress (h : Nat) (p : List Block) (r : Bool) (p' : List Block) (w : Option Bool)
    (hl : blockLayout h p r = (some p', w)) : p'.length < p.length := by
  unfold blockLayout at hl
  split at hl
  · cases hl
  · rename_i b' rest' heq
    cases hl
    cases p with
    | nil => cases heq
    | cons b rest =>
      -- the first block is placed whatever its height
      have := fill_length_le h rest (0 + b.height) false
      rw [fill, if_pos rfl] at heq
      rw [← heq]; exact Nat.lt_succ_of_le this

/-- Hence the page loop over block lists always terminates, for every page height (0 included),
    every list of blocks and every sequence of left/right breaks. -/
theorem blockLayout_terminates (h : Nat) (s : PageState (List Block)) :
    ∃ pages, pageLoop (blockLayout h) (2 * s.resume.length + 2) s 0 = some pages ∧ pages ≤ 2 * s.resume.length + 2 :=
  page_loop_progress (blockLayout h) List.length (blockLayout_progress h) s _ (Nat.le_refl _)

example : pageLoop (blockLayout 10) 100
    { resume := [⟨false, none, 6⟩, ⟨false, none, 6⟩, ⟨true, some true, 1⟩, ⟨true, some true, 1⟩], right := true, want := none } 0 = some 5 := by
  decide

/-! ## invalid constructs are skipped (PreprocessDeclarations, stylesheet rule loop) -/

/-- Dropping an item on which `f` fails leaves the result unchanged — an invalid
    declaration / rule has no effect on what the others produce. -/
theorem invalid_skipped {α β ε : Type} (f : α → Except ε (List β)) (pre post : List α) (x : α) (e : ε)
    (h : f x = .error e) : keepValid f (pre ++ x :: post) = keepValid f (pre ++ post) := by
  simp only [keepValid_append, keepValid, h]

/-- The result is the concatenation of what each item produces alone (items do not interact). -/
theorem valid_independent {α β ε : Type} (f : α → Except ε (List β)) (xs : List α) :
    keepValid f xs = (xs.map (fun x => keepValid f [x])).flatten := by
  induction xs with
  | nil => rfl
  | cons x xs ih => rw [List.map_cons, List.flatten_cons, ← ih]; exact keepValid_append f [x] xs

/-- Every valid item is kept, in order. -/
theorem valid_kept {α β ε : Type} (f : α → Except ε (List β)) (pre post : List α) (x : α) (rs : List β)
    (h : f x = .ok rs) : keepValid f (pre ++ x :: post) = keepValid f pre ++ rs ++ keepValid f post := by
  simp only [keepValid_append, keepValid, h, List.append_assoc]

example : keepValid (fun (n : Nat) => if n % 2 = 0 then Except.ok [n, n] else Except.error "odd") [2, 3, 4] = [2, 2, 4, 4] := by
  decide

end WR.Props.C01
