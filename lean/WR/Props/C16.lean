/-
  C16 — property theorems.  "Boxes are painted in CSS stacking order."

  Model: WR/C16/Model.lean (stacking.go's dispatch fused with drawStackingContext's step order);
  spec: WR/C16/Spec.lean (CSS 2.1 Appendix E, layer by layer).
-/
import WR.C16.LemmasEnclosure
namespace WR.Props.C16
open WR.C16

/-! ## the sort of NewStackingContext -/

/-- sort.SliceStable as modelled: the result is sorted by z-index, is a permutation of the input, and
    entries with equal z-index keep their input (= tree) order. -/
theorem stable_sort_spec (l : List CCtx) :
    (sortZ l).Pairwise (fun a b => a.1 ≤ b.1)
    ∧ (sortZ l).Perm l
    ∧ ∀ z : Int, (sortZ l).filter (fun a => a.1 == z) = l.filter (fun a => a.1 == z) := by
  induction l with
  | nil => simp [sortZ]
  | cons x xs ih =>
    obtain ⟨h1, -, h3⟩ := ih
    refine ⟨insertZ_sorted x _ h1, sortZ_perm _, fun z => ?_⟩
    rw [sortZ, insertZ_filter x z _ h1, List.filter_cons, List.filter_cons, h3 z]

/-- NewStackingContext's partition by the sign of z-index loses and duplicates nothing, and every child
    context lands in the list of its sign. -/
theorem partition_covers (own : List CCtx) :
    (own.filter (·.1 < 0) ++ own.filter (·.1 == 0) ++ own.filter (·.1 > 0)).Perm own
    ∧ (∀ c ∈ own.filter (·.1 < 0), c.1 < 0) ∧ (∀ c ∈ own.filter (·.1 == 0), c.1 = 0) ∧ (∀ c ∈ own.filter (·.1 > 0), 0 < c.1) := by
  refine ⟨signs_perm own, ?_, ?_, ?_⟩ <;> intro c hc <;> simpa using (List.mem_filter.mp hc).2

/-- the step order of drawStackingContext for one context: [opacity group [transform [ own background, own
    border, [overflow clip: negative-z contexts, in-flow blocks (background then border each), floats, inline
    content, z = 0 / auto contexts, positive-z contexts ], outlines of the box and of its in-flow descendants ]]]
    — the children of one context are painted in Appendix E's layer order whatever the lists contain. -/
theorem context_layer_order (id : Nat) (pr : BProps) (neg zero pos : List CCtx) (blocks : List (List PEv))
    (floats : List (List PEv)) (lines : List (List PEv)) (kept : List Nat) :
    drawCtx id pr neg zero pos blocks floats lines kept =
      (if pr.opacity then [(id, Layer.groupOpen)] else [])
      ++ (if pr.transform then [(id, Layer.xformOpen)] else [])
      ++ (if pr.blockLevel || pr.inlineBlock then [(id, .background), (id, .border)] else [])
      ++ (if pr.overflow then [(id, Layer.clipOpen)] else [])
      ++ neg.flatMap (·.2)
      ++ blocks.flatten
      ++ floats.flatten
      ++ lines.flatten
      ++ zero.flatMap (·.2)
      ++ pos.flatMap (·.2)
      ++ (if pr.overflow then [(id, Layer.clipClose)] else [])
      ++ (id :: kept).map (fun b => (b, Layer.outline))
      ++ (if pr.transform then [(id, Layer.xformClose)] else [])
      ++ (if pr.opacity then [(id, Layer.groupClose)] else []) := rfl

/-- steps 3-9 of one context -/
def steps3to9 (parts : List CCtx) (blocks floats lines : List (List PEv)) : List PEv :=
  (sortZ (parts.filter (·.1 < 0))).flatMap (·.2) ++ blocks.flatten ++ floats.flatten ++ lines.flatten
    ++ (parts.filter (·.1 == 0)).flatMap (·.2) ++ (sortZ (parts.filter (·.1 > 0))).flatMap (·.2)

/-- `layers`, bracketed the way the groups nest -/
theorem layers_nested (id : Nat) (pr : BProps) (parts : List CCtx) (blocks floats lines : List (List PEv)) (inflow : List Nat) :
    layers id pr parts blocks floats lines inflow =
      (if pr.opacity then [(id, Layer.groupOpen)] else [])
      ++ ((if pr.transform then [(id, Layer.xformOpen)] else [])
        ++ ((if pr.blockLevel || pr.inlineBlock then [(id, .background), (id, .border)] else [])
          ++ ((if pr.overflow then [(id, Layer.clipOpen)] else [])
            ++ (steps3to9 parts blocks floats lines ++ (if pr.overflow then [(id, Layer.clipClose)] else [])))
          ++ (id, Layer.outline) :: inflow.map (fun b => (b, Layer.outline)))
        ++ (if pr.transform then [(id, Layer.xformClose)] else []))
      ++ (if pr.opacity then [(id, Layer.groupClose)] else []) := by
  simp only [layers, steps3to9, List.append_assoc, List.cons_append, List.map_cons]

/-- for a block-level box that forms a (pseudo-)context: background < border < the paints of its context <
    its outline -/
theorem box_layers_order (id : Nat) (pr : BProps) (h : pr.blockLevel = true) (parts : List CCtx) (blocks : List (List PEv))
    (floats : List (List PEv)) (lines : List (List PEv)) (inflow : List Nat) :
    ∃ pre mid post, layers id pr parts blocks floats lines inflow
      = pre ++ (id, Layer.background) :: (id, Layer.border) :: mid ++ (id, Layer.outline) :: post
      ∧ (∀ e ∈ pre, e = (id, Layer.groupOpen) ∨ e = (id, Layer.xformOpen)) := by
  refine ⟨(if pr.opacity then [(id, Layer.groupOpen)] else []) ++ (if pr.transform then [(id, Layer.xformOpen)] else []),
    (if pr.overflow then [(id, Layer.clipOpen)] else [])
      ++ (steps3to9 parts blocks floats lines ++ (if pr.overflow then [(id, Layer.clipClose)] else [])),
    inflow.map (fun b => (b, Layer.outline)) ++ ((if pr.transform then [(id, Layer.xformClose)] else [])
      ++ (if pr.opacity then [(id, Layer.groupClose)] else [])), ?_, ?_⟩
  · rw [layers_nested, h]
    simp only [Bool.true_or, if_true, List.append_assoc, List.cons_append, List.nil_append]
  · rw [List.forall_mem_append, forall_mem_ite_nil, forall_mem_ite_nil, List.forall_mem_singleton, List.forall_mem_singleton]
    exact ⟨fun _ => Or.inl rfl, fun _ => Or.inr rfl⟩

/-- group_encloses_subtree, the part that is a matter of shape: what a box with opacity < 1 paints is exactly
    `group-open … group-close`; the transform scope lies inside the group and contains every paint; the
    overflow clip contains `inner` and neither the box's background/border nor its outline (`layers_nested` says what
    `inner` is: steps 3-9). -/
theorem group_brackets_shape (id : Nat) (pr : BProps) (parts : List CCtx) (blocks : List (List PEv))
    (floats : List (List PEv)) (lines : List (List PEv)) (inflow : List Nat) :
    ∃ bgbd inner outl,
      layers id pr parts blocks floats lines inflow =
        (if pr.opacity then [(id, Layer.groupOpen)] else [])
        ++ ((if pr.transform then [(id, Layer.xformOpen)] else [])
          ++ (bgbd
            ++ ((if pr.overflow then [(id, Layer.clipOpen)] else []) ++ (inner ++ (if pr.overflow then [(id, Layer.clipClose)] else [])))
            ++ (id, Layer.outline) :: outl)
          ++ (if pr.transform then [(id, Layer.xformClose)] else []))
        ++ (if pr.opacity then [(id, Layer.groupClose)] else [])
      ∧ (∀ e ∈ bgbd, e = (id, Layer.background) ∨ e = (id, Layer.border))
      ∧ outl = inflow.map (fun b => (b, Layer.outline)) := by
  refine ⟨_, _, _, layers_nested id pr parts blocks floats lines inflow, ?_, rfl⟩
  rw [forall_mem_ite_nil, List.forall_mem_cons, List.forall_mem_singleton]
  exact fun _ => ⟨Or.inl rfl, Or.inr rfl⟩

/-! ## model versus Appendix E -/

/-- The headline: for every box tree and every assignment of position / z-index / float / opacity /
    transform / overflow / block-level / inline content, the sequence of paints and group brackets produced
    by the model of stacking.go (single-pass dispatch with insert-at-remembered-index, partition by sign,
    stable sort, drawStackingContext's steps) IS the CSS 2.1 Appendix E order of the spec (per-layer
    traversals; z-index read on positioned boxes only). -/
theorem paint_order_respects_E (root : Box) : paintOrder root = specOrder root := by
  cases root with
  | mk id pr children =>
    simp only [paintOrder, specOrder]
    rw [ctx_none_of id pr children (dispatchChildren_eq children)]

/-- the page: `@page` background, then the canvas background, then the root element's stacking context -/
theorem page_order_respects_E (pageBg canvasBg : Option Nat) (root : Box) :
    pagePaint pageBg canvasBg root = specPage pageBg canvasBg root := by
  simp only [pagePaint, specPage, paint_order_respects_E]
  cases pageBg <;> cases canvasBg <;> simp

/-- the sub-contexts found inside a float / positioned z-index:auto box are handed to the enclosing real
    context, in tree order, after the ones found before it -/
theorem pseudo_context_lifts (b : Box) (cc : List CCtx) :
    ctxOfBox b (some cc) = (specPseudo b, cc ++ participants b.children) := by
  cases b with
  | mk id pr children =>
    exact ctx_some_of id pr children cc (dispatchChildren_eq children)

def pr0 : BProps := ⟨false, none, false, false, false, false, true, false, false, false, false, false⟩
/-- a text run -/
def txt (n : Nat) : Box := .mk n { pr0 with blockLevel := false, text := true } []

/-- The document that used to be the negation witness (z-index was honoured on a non-positioned opacity
    box; repaired in /repo a96a4f9; the same document is a first-run corpus case of the harness):
    b1: position:relative; z-index:1 — b2: opacity:0.5; z-index:2 (not positioned). -/
def witness : Box :=
  .mk 9 pr0
    [.mk 1 { pr0 with positioned := true, z := some 1, hasLines := true } [txt 11],
     .mk 2 { pr0 with z := some 2, opacity := true, hasLines := true } [txt 12]]

theorem witness_spec : specOrder witness =
    [(9, .background), (9, .border),
     (2, .groupOpen), (2, .background), (2, .border), (12, .content), (2, .outline), (12, .outline), (2, .groupClose),
     (1, .background), (1, .border), (11, .content), (1, .outline), (11, .outline), (9, .outline)] := by
  simp [witness, pr0, txt, inlineOf, specOrder, specReal, layers, participants, flowBlocks, floatsOf, flowLines, flowAll,
    BProps.inFlow, BProps.specZ, BProps.makesContext, sortZ, insertZ]

/-- b2 (layer 8: z-index does not apply) is painted before b1 (layer 9) by the model too -/
theorem witness_model : paintOrder witness =
    [(9, .background), (9, .border),
     (2, .groupOpen), (2, .background), (2, .border), (12, .content), (2, .outline), (12, .outline), (2, .groupClose),
     (1, .background), (1, .border), (11, .content), (1, .outline), (11, .outline), (9, .outline)] := by
  rw [paint_order_respects_E, witness_spec]

/-- tables (E.2 step 4 and 7): a table of two cells followed by a block, in one context — the cells' backgrounds
    then their borders are painted with the table (step 4, before the later block's background), and at step 7
    the text of the cells comes before the text of the later block: tree order over blocks AND cells -/
example : paintOrder (.mk 9 pr0
    [.mk 1 { pr0 with table := true }
       [.mk 2 { pr0 with blockLevel := false }   -- row
          [.mk 3 { pr0 with blockLevel := false, tableCell := true, hasLines := true } [txt 13],
           .mk 4 { pr0 with blockLevel := false, tableCell := true, hasLines := true } [txt 14]]],
     .mk 5 { pr0 with hasLines := true } [txt 15]])
  = [(9, .background), (9, .border),
     (1, .background), (3, .background), (4, .background), (1, .border), (3, .border), (4, .border),
     (5, .background), (5, .border),
     (13, .content), (14, .content), (15, .content),
     (9, .outline), (1, .outline), (2, .outline), (3, .outline), (13, .outline), (4, .outline), (14, .outline),
     (5, .outline), (15, .outline)] := by
  rw [paint_order_respects_E]
  simp [pr0, txt, inlineOf, blockPaint, cellsOf, cellsOfL, specOrder, specReal, layers, participants, flowBlocks,
    floatsOf, flowLines, flowAll, BProps.inFlow, BProps.makesContext, sortZ]

/-! ## group_encloses_subtree

  Full statement (`enclosureJudge`, WR/C16/Enclosure.lean, evaluated by the harness on the events of every
  rendered document): for every box, every paint of the box and of its sub-tree — its outline included —
  lies between the open and the composite of its opacity group, inside its transform scope, and (for the
  descendants and the box's own content, not for its own background / border / outline) inside its
  overflow clip; per box background < border < content < outline.

    theorem group_encloses_subtree (root : Box) : enclosureJudge root (specOrder root) = true

  FALSE on the current code for the overflow clause: drawStackingContext paints the outlines of the
  in-flow descendants at step 10, after the inner OnNewStack that holds the overflow clip is closed, so
  the outline of a descendant of an `overflow:hidden` box is not clipped (known finding KF16-2).
  Negation witness: <div style="overflow:hidden"><div style="outline:…">x</div></div>. -/

def clipWitness : Box :=
  .mk 9 pr0 [.mk 1 { pr0 with overflow := true } [.mk 2 { pr0 with hasLines := true } [txt 12]]]

theorem clipWitness_spec : specOrder clipWitness =
    [(9, .background), (9, .border), (1, .background), (1, .border), (1, .clipOpen), (2, .background), (2, .border),
     (12, .content), (1, .clipClose), (1, .outline), (2, .outline), (12, .outline), (9, .outline)] := by
  simp [clipWitness, pr0, txt, inlineOf, blockPaint, specOrder, specReal, layers, participants, flowBlocks, floatsOf, flowLines, flowAll,
    BProps.inFlow, BProps.specZ, BProps.makesContext, sortZ]

theorem group_encloses_subtree_false : enclosureJudge clipWitness (specOrder clipWitness) = false := by
  rw [clipWitness_spec]
  simp only [clipWitness, pr0, txt, enclosureJudge, encloseBox, encloseList, idsOf, idsOfL]
  decide

/-- … and that outline is the only thing wrong with it -/
theorem group_encloses_subtree_witness_lenient : enclosureJudgeLenient clipWitness (specOrder clipWitness) = true := by
  rw [clipWitness_spec]
  simp only [clipWitness, pr0, txt, enclosureJudgeLenient, encloseBox, encloseList, idsOf, idsOfL]
  decide

/-- the KF16-2 exemption, as a decidable set of events: the outlines of the in-flow descendants of the box
    (drawStackingContext paints them at step 10, after the overflow clip is closed) -/
def exemptOutlines (b : Box) : List PEv := (flowAll b.children).map (fun x => (x, Layer.outline))

/-- group_encloses_subtree, what holds for ALL trees (ids pairwise distinct) and every box `b` of the tree that
    forms a stacking context / a group (positioned with z-index, opacity < 1, transform, overflow ≠ visible):

    1. in the trace of the model (= of the spec) what `b` paints is ONE contiguous segment;
    2. no event of `b`'s sub-tree lies outside the segment — a real context keeps its whole sub-tree: the
       positioned / z-ordered descendants that the painting order moves are moved to the nearest enclosing
       REAL context, never past `b` (they leave only floats and positioned z-index:auto boxes, which open no group);
    3. every event of the segment belongs to `b`'s sub-tree;
    4. the segment is  [group-open] [xform-open] bg bd [clip-open] inner [clip-close] outline(b) exempt [xform-close]
       [group-close]: with opacity < 1 everything the sub-tree paints (outlines included) is between the open and
       the composite of the group, and inside the transform scope;
    5. with overflow ≠ visible every event of a descendant is inside the clip, EXCEPT exactly `exemptOutlines b`
       (KF16-2); the box's own background, border and outline are outside the clip. -/
theorem group_encloses_subtree_partial (root b : Box) (hnd : (idsOf root).Nodup) (hb : b ∈ sub root)
    (hctx : b.pr.makesContext = true) :
    ∃ pre post bgbd inner,
      paintOrder root = pre ++ specReal b ++ post
      ∧ (∀ e ∈ pre ++ post, e.1 ∉ idsOf b)
      ∧ (∀ e ∈ specReal b, e.1 ∈ idsOf b)
      ∧ specReal b =
          (if b.pr.opacity then [(b.id, Layer.groupOpen)] else [])
          ++ ((if b.pr.transform then [(b.id, Layer.xformOpen)] else [])
            ++ (bgbd
              ++ ((if b.pr.overflow then [(b.id, Layer.clipOpen)] else [])
                  ++ (inner ++ (if b.pr.overflow then [(b.id, Layer.clipClose)] else [])))
              ++ (b.id, Layer.outline) :: exemptOutlines b)
            ++ (if b.pr.transform then [(b.id, Layer.xformClose)] else []))
          ++ (if b.pr.opacity then [(b.id, Layer.groupClose)] else [])
      ∧ (∀ e ∈ bgbd, e = (b.id, Layer.background) ∨ e = (b.id, Layer.border))
      ∧ (∀ e ∈ specReal b, e.1 ≠ b.id → e ∈ inner ∨ e ∈ exemptOutlines b) := by
  obtain ⟨⟨pre, post, h1, h2, h3⟩, h4⟩ := trace_segment root b hnd hb (Or.inl hctx)
  cases b with
  | mk id pr children =>
    have hshape := layers_nested id pr (participants children) (flowBlocks children) (floatsOf children)
      ((if pr.hasLines then [inlineOf children] else []) ++ flowLines children) (flowAll children)
    rw [← specReal] at hshape
    refine ⟨pre, post, _, _, by rw [paint_order_respects_E]; exact h1, List.forall_mem_append.2 ⟨h2, h3⟩, h4, hshape, ?_, ?_⟩
    · rw [forall_mem_ite_nil, List.forall_mem_cons, List.forall_mem_singleton]
      exact fun _ => ⟨Or.inl rfl, Or.inr rfl⟩
    · intro e he hne
      rw [hshape] at he
      simp only [List.mem_append, List.mem_cons] at he
      -- the brackets and the box's own paints carry its id
      have own : ∀ (c : Bool) (l : List Layer), e ∈ (if c then l.map (id, ·) else []) → False := by
        intro c l h
        split at h
        · obtain ⟨_, _, rfl⟩ := List.mem_map.1 h
          exact hne rfl
        · cases h
      rcases he with (h | (h | ((h | (h | (h | h))) | (h | h))) | h) | h
      · exact (own _ [_] h).elim
      · exact (own _ [_] h).elim
      · exact (own _ [_, _] h).elim
      · exact (own _ [_] h).elim
      · exact Or.inl h
      · exact (own _ [_] h).elim
      · exact (hne (h ▸ rfl)).elim
      · exact Or.inr h
      · exact (own _ [_] h).elim
      · exact (own _ [_] h).elim

/-- non-vacuity of the hypotheses: the overflow box of the KF16-2 witness, in a tree with distinct ids; its
    exempt events are exactly the outline of its in-flow child (and of that child's text run) -/
example : (idsOf clipWitness).Nodup
    ∧ Box.mk 1 { pr0 with overflow := true } [.mk 2 { pr0 with hasLines := true } [txt 12]] ∈ sub clipWitness
    ∧ exemptOutlines (.mk 1 { pr0 with overflow := true } [.mk 2 { pr0 with hasLines := true } [txt 12]])
        = [(2, .outline), (12, .outline)] := by
  refine ⟨?_, ?_, ?_⟩
  · simp [clipWitness, txt, idsOf, idsOfL]
  · simp [clipWitness, sub, subL]
  · simp [exemptOutlines, Box.children, flowAll, BProps.inFlow, BProps.makesContext, pr0, txt]

/-- the two-block document `witness` above passes the judge as well -/
example : enclosureJudgeLenient witness (specOrder witness) = true := by
  rw [witness_spec]
  simp only [witness, pr0, txt, enclosureJudgeLenient, encloseBox, encloseList, idsOf, idsOfL]
  decide

/- NOT proved for all trees: the Bool judge itself (`enclosureJudgeLenient root (specOrder root) = true`), i.e. the
   translation of the segment structure above into positions of first occurrences, and the per-box
   "background < border < content < outline" for boxes painted by an ancestor's context (for context boxes:
   `box_layers_order`).  Both are judged on every rendered document. -/

end WR.Props.C16
