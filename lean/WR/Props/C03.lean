/-
  C03 — property theorems: the cascade picks the declaration CSS says wins.
  Also the lookups into the regenerated precedence table, and the repaired defects and a larger
  document as evaluated examples.  Lemmas: WR/C03/Lemmas.lean (scan, orders), LemmasOrder.lean (order of visit).
  Model = WR/C03/Model.lean (mirrors html/tree/style.go & css/validation), spec = WR/C03/Spec.lean.
-/
import WR.C03.LemmasOrder
import WR.Gen.C03Precedence
namespace WR.Props.C03
open WR.C03 WR.C03.Spec

/-! ## the insertion loop -/

/-- **fold_is_last_max** — for every list of weighted declarations (all list lengths), the
    insertion loop of `newStyleFor` (`if old.isNone() || old.Less(new) { replace }`, `Less` being ≤)
    ends with the *last* element of maximal weight: everything before it is ≤ it, everything after
    it is strictly below it. (Weights of real declarations have precedence ≥ 1, so the zero weight
    Go uses for "no entry" cannot be confused with a declaration.) -/
theorem fold_is_last_max (d : Model.WValue) (ds : List Model.WValue)
    (hpos : ∀ x ∈ d :: ds, 1 ≤ x.weight.precedence) :
    (Model.cascade (d :: ds)).weight.isNone = false ∧
    ∃ pre post, d :: ds = pre ++ Model.cascade (d :: ds) :: post ∧
      (∀ x ∈ pre, x.weight.less (Model.cascade (d :: ds)).weight = true) ∧
      (∀ x ∈ post, (Model.cascade (d :: ds)).weight.less x.weight = false) := by
  obtain ⟨r, hr, hmax⟩ := Scan.scan_isLastMax wle_totalPreorder d ds
  have h := cascade_eq_scan (d :: ds) hpos
  rw [hr] at h
  unfold toOpt at h
  split at h
  · cases h
  · rename_i hn
    cases h
    exact ⟨by simpa using hn, hmax⟩

/-- with no declaration at all the entry stays absent -/
theorem fold_nil : (Model.cascade []).weight.isNone = true := by decide

/-- `weight.Less` is a total preorder (this is all `fold_is_last_max` uses) -/
theorem weight_less_total_preorder :
    (∀ a b : Model.Weight, a.less b = true ∨ b.less a = true) ∧
    (∀ a b c : Model.Weight, a.less b = true → b.less c = true → a.less c = true) :=
  ⟨less_totalPreorder.total, less_totalPreorder.trans⟩

/-! ## the precedence table (regenerated from the real `declarationPrecedence` on every run) -/

def lookup (origin : String) (imp : Bool) : Option Nat :=
  (WR.Gen.C03Precedence.table.find? fun e => e.1 == origin && e.2.1 == imp).map (·.2.2)

def ltOpt : Option Nat → Option Nat → Bool
  | some x, some y => x < y
  | _, _ => false

/-- **precedence_order** — in the real table: user agent < user < author < author !important <
    user !important, and importance changes nothing for the user agent origin (CSS 2.1 §6.4.1) -/
theorem precedence_order :
    (lookup "user agent" false).isSome = true ∧ lookup "user agent" true = lookup "user agent" false ∧
      ltOpt (lookup "user agent" false) (lookup "user" false) = true ∧
      ltOpt (lookup "user" false) (lookup "author" false) = true ∧
      ltOpt (lookup "author" false) (lookup "author" true) = true ∧
      ltOpt (lookup "author" true) (lookup "user" true) = true := by
  decide +kernel

def originOf : String → Option Origin
  | "user agent" => some .ua
  | "user" => some .user
  | "author" => some .author
  | _ => none

/-- the model's `declarationPrecedence` is the real table, entry by entry, and the table is complete -/
theorem precedence_table_is_model :
    (WR.Gen.C03Precedence.table.all fun e =>
      match originOf e.1 with
      | some o => Model.declarationPrecedence o e.2.1 == e.2.2
      | none => false) = true ∧
    ([Origin.ua, .user, .author].all fun o => [false, true].all fun i =>
      WR.Gen.C03Precedence.table.any fun e => originOf e.1 == some o && e.2.1 == i) = true := by
  decide +kernel

/-- the code's precedence is the CSS 2.1 §6.4.1 order -/
theorem precedence_is_spec (o : Origin) (i : Bool) : Model.declarationPrecedence o i = Spec.precedence o i := by
  cases o <;> cases i <;> rfl

/-! ## the spec's winner -/

/-- the spec's winner is the lexicographic maximum of (origin/importance, style attribute,
    specificity, position): it occurs in the list, every occurrence before it is `le` it, every
    occurrence after it is strictly below it — for every non-empty list of occurrences -/
theorem spec_winner_is_last_max (o : Occ) (os : List Occ) :
    ∃ w, Spec.winner (o :: os) = some w ∧ ∃ pre post, o :: os = pre ++ w :: post ∧
      (∀ x ∈ pre, Spec.le x w = true) ∧ (∀ x ∈ post, Spec.le w x = false) := by
  obtain ⟨r, _, hmax⟩ := Scan.scan_isLastMax sle_totalPreorder o os
  exact ⟨r, Scan.find_last_of_isLastMax sle_totalPreorder _ _ hmax, hmax⟩

theorem spec_winner_nil : Spec.winner [] = none := rfl

/-- the comparison behind the winner is a total preorder -/
theorem spec_le_total_preorder :
    (∀ a b : Occ, Spec.le a b = true ∨ Spec.le b a = true) ∧
    (∀ a b c : Occ, Spec.le a b = true → Spec.le b c = true → Spec.le a c = true) :=
  ⟨sle_totalPreorder.total, sle_totalPreorder.trans⟩

/-! ## the cascade -/

/-- (order of visit) the declarations the code inserts are exactly the applicable declarations, in
    order of appearance: sheets in the order UA, hints, author (document order), user; `@import` at
    its place and only where valid; nested rules and the declarations around them in source order;
    non-matching `@media`, `<style media>`, rules never visited — for every document -/
theorem insertions_are_spec_occurrences (doc : Doc) :
    Model.insertions doc = (Spec.occs doc).map toW := by
  unfold Model.insertions Model.sheets Model.attrInsertions Model.findStylesheets Spec.occs
  cases doc.hints <;>
    simp [sheet_rule, sheet_hint, List.flatMap_map, List.map_flatMap, evaluateMediaQuery_eq, Function.comp_def, toW]

/-- **flatten_imports_order** — a sheet that starts with `@import`s is flattened into the matcher
    as the imported sheets' rules, one block per `@import` statement in the order written (those whose
    media list matches the device), followed by the sheet's remaining statements: a sheet imported
    twice contributes its rules twice, the second time at the later position. -/
theorem flatten_imports_order (dev : Medium) (subs : List (List Medium × List Item)) (rest : List Item) :
    Model.newCSS dev (subs.map (fun p => Item.imp p.1 p.2) ++ rest) =
      (subs.filter fun p => mediaOk p.1 dev).flatMap (fun p => Model.newCSS dev p.2) ++
        Model.preprocessItems dev false rest := by
  unfold Model.newCSS
  induction subs with
  | nil => rfl
  | cons p ps ih =>
    simp only [List.map_cons, List.cons_append, Model.preprocessItems, Model.preprocessItem,
      Bool.false_eq_true, if_false, evaluateMediaQuery_eq, List.filter_cons]
    by_cases hm : mediaOk p.1 dev = true
    · simp [hm, ih]
    · have hm' : mediaOk p.1 dev = false := by simpa using hm
      simp [hm', ih]

/-- (weights) comparing the code's weights is comparing (origin/importance, style attribute,
    specificity with presentational hints at zero) — for all occurrences -/
theorem weights_agree (x y : Occ) : wle (toW x) (toW y) = Spec.le x y := by
  obtain ⟨xo, xi, xk, xs, xv⟩ := x
  obtain ⟨yo, yi, yk, ys, yv⟩ := y
  simp only [wle, less_eq, toW, precedence_is_spec, Spec.le]
  -- the precedences are compared alike; what follows agrees for every pair of kinds
  congr 2
  cases xk <;> cases yk <;> rfl

/-- **cascade_correct** — for every document (every set of sheets of every origin, every nesting
    depth, every list of `@import`/`@media`, any style attribute and hints) the value the code's
    cascade yields for the probe property on the probe element is the declaration CSS says wins:
    the maximum by origin and importance, then style attribute over every selector, then
    specificity (hints at zero), then order of appearance; `none` iff no declaration applies. -/
theorem cascade_correct (doc : Doc) : Model.winner doc = Spec.docWinner doc := by
  have hins := insertions_are_spec_occurrences doc
  have hpos : ∀ d ∈ Model.insertions doc, 1 ≤ d.weight.precedence := by
    intro d hd
    rw [hins] at hd
    obtain ⟨o, _, rfl⟩ := List.mem_map.mp hd
    exact declarationPrecedence_pos _ _
  have hscan := cascade_eq_scan (Model.insertions doc) hpos
  rw [hins, Scan.scan_map Spec.le wle toW (Spec.occs doc) weights_agree] at hscan
  have hw : Model.winner doc = (toOpt (Model.cascade (Model.insertions doc))).map (·.val) := by
    unfold Model.winner toOpt
    simp only
    split <;> rfl
  rw [hw, hins, hscan, Scan.scan_eq_find_last sle_totalPreorder, Option.map_map]
  rfl

/-! ### the three defects repaired in /repo (f33b44d, 35fa425, 4fa336e), as positive examples;
    the same documents are replayed against the real code first on every run (corpus/C03) -/

def sel (a b c : Nat) : Sel := { spec := (a, b, c), ok := true }
def docOf (styleAttr : List Decl) (author : List Item) : Doc :=
  { dev := .print, hints := false, styleAttr := styleAttr, hintAttr := [], ua := [], ph := [],
    author := [⟨[.all], author⟩], user := [] }

/-- `<style>#a#a{p:1}</style> <x id=a style="p:2">`: the style attribute wins -/
def regression1 : Doc := docOf [⟨false, 2⟩] [.rule [sel 2 0 0] [.decl ⟨false, 1⟩]]
example : Model.winner regression1 = some 2 ∧ Spec.docWinner regression1 = some 2 := by decide +kernel

/-- `.c{p:1; &{p:2}; p:3}` and `.c{p:1; &{p:2}}`: order of appearance -/
def regression2 (tail : List Body) : Doc :=
  docOf [] [.rule [sel 0 1 0] ([.decl ⟨false, 1⟩, .nested [{ spec := (0, 0, 0), ok := true, amp := true }] [.decl ⟨false, 2⟩]] ++ tail)]
example : Model.winner (regression2 []) = some 2 ∧ Spec.docWinner (regression2 []) = some 2 := by decide +kernel
example : Model.winner (regression2 [.decl ⟨false, 3⟩]) = some 3 ∧ Spec.docWinner (regression2 [.decl ⟨false, 3⟩]) = some 3 := by decide +kernel

/-- `#zz{ .x, .c {p:1} }` on an element of class c outside #zz: nothing applies -/
def regression3 : Doc :=
  docOf [] [.rule [{ spec := (1, 0, 0), ok := false }]
    [.nested [{ spec := (0, 1, 0), ok := false }, { spec := (0, 1, 0), ok := false }] [.decl ⟨false, 1⟩]]]
example : Model.winner regression3 = none ∧ Spec.docWinner regression3 = none := by decide +kernel

/-! ### a sheet imported twice (no defect: what `flatten_imports_order` says, on a document) -/

/-- `@import "a"; @import "b"; @import "a";` with `#a{p:1}` in a and `#a{p:2}` in b: a wins -/
def reimport1 : Doc :=
  let a : List Item := [.rule [sel 1 0 0] [.decl ⟨false, 1⟩]]
  let b : List Item := [.rule [sel 1 0 0] [.decl ⟨false, 2⟩]]
  docOf [] [.imp [.all] a, .imp [.all] b, .imp [.all] a]
example : Model.winner reimport1 = some 1 ∧ Spec.docWinner reimport1 = some 1 := by decide +kernel

/-! ## non-vacuity -/

/-- three competing author declarations with a tie (`.c{p:1} #a{p:2} #a{&{p:4}; p:3}`), an
    `!important` style attribute, a hint, a UA rule and an `!important` user declaration: the user's wins -/
def example1 : Doc :=
  { dev := .print, hints := true, styleAttr := [⟨true, 7⟩], hintAttr := [⟨false, 8⟩], ua := [.rule [sel 0 0 1] [.decl ⟨false, 9⟩]], ph := [],
    author := [⟨[.all], [.rule [sel 0 1 0] [.decl ⟨false, 1⟩], .rule [sel 1 0 0] [.decl ⟨false, 2⟩],
      .rule [sel 1 0 0] [.nested [{ spec := (0, 0, 0), ok := true, amp := true }] [.decl ⟨false, 4⟩], .decl ⟨false, 3⟩]]⟩],
    user := [[.rule [sel 0 0 0] [.decl ⟨true, 5⟩]]] }

example : Model.winner example1 = some 5 ∧ Spec.docWinner example1 = some 5 ∧ (Spec.occs example1).length = 8 := by decide +kernel
-- the hypothesis `hpos` of `fold_is_last_max` can be met, and the loop then keeps the later of the two maxima
example : ∀ x ∈ [(⟨⟨3, false, (0, 1, 0)⟩, 1⟩ : Model.WValue), ⟨⟨3, false, (1, 0, 0)⟩, 2⟩, ⟨⟨3, false, (1, 0, 0)⟩, 3⟩],
    1 ≤ x.weight.precedence := by decide
example : Model.cascade [⟨⟨3, false, (0, 1, 0)⟩, 1⟩, ⟨⟨3, false, (1, 0, 0)⟩, 2⟩, ⟨⟨3, false, (1, 0, 0)⟩, 3⟩]
    = ⟨⟨3, false, (1, 0, 0)⟩, 3⟩ := by decide +kernel

end WR.Props.C03
