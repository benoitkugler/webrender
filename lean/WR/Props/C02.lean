/-
  C02 — Pagination and line breaking conserve content: property theorems.

  All theorems quantify over EVERY box tree of class F (nested in-flow block boxes whose leaves are
  paragraphs of lines), EVERY resume position, EVERY oracle `O : Oracle γ` (that is: every page
  geometry, every margin/padding/border configuration, every overflow test) and every
  orphans / widows / break-* / page-name assignment.  The driver (`Driver/C02.lean`) executes the
  same `layBox` / `pagesLoop` with the concrete oracle `geoPages` (WR/C02/Geo.lean), so the instance
  theorems at the end are about exactly what is compared with the Go code.
-/
import WR.C02.Termination
import WR.C02.Geo
namespace WR.Props.C02
open WR.C02

variable {γ : Type}

/-! ## fragments -/

/-- **Fragment conservation.**  Whatever `layBox` returns for box `b` resumed at `s`: the lines of the
    fragment followed by the lines of `b` from the returned resume position are exactly the lines of
    `b` from `s` — nothing lost, duplicated or reordered by one page's layout (line breaking at page
    ends with orphans/widows, forced and avoided breaks, `break-inside: avoid`, the second layout
    with a larger bottom space, the earlier-page-break search). -/
theorem layBox_ok (O : Oracle γ) (b : Box) (s : RS) (g : γ) (pie : Bool) (br : BRes γ)
    (h : layBox O b s g pie = .ok br) :
    br.frag.leaves ++ fromOpt b br.resume = b.from s :=
  (layBox_good O b s g pie br h).1

example : ∃ br : BRes Unit, layBox (γ := Unit)
    ⟨fun _ _ _ _ g => g, fun _ _ => false, fun g _ _ => (g, 0), fun _ g => g, fun _ => false,
     fun _ _ => false, fun _ _ => false, fun g _ => g, fun g _ => g, fun _ g => g, fun _ _ _ _ g => g⟩
    (.para {} [1, 2, 3]) .start () true = .ok br := ⟨_, rfl⟩

/-- The earlier page break that a complete fragment offers to `findEarlierPageBreak` is a cut too. -/
theorem earlier_break_ok (O : Oracle γ) (b : Box) (s : RS) (g : γ) (pie : Bool) (br : BRes γ)
    (h : layBox O b s g pie = .ok br) (hres : br.resume = none) (f' : Frag) (r' : RS)
    (he : br.eb = some (f', r')) :
    f'.leaves ++ b.from r' = b.from s :=
  (layBox_good O b s g pie br h).2 hres f' r' he

/-- The decidable judge `fragmentOK` accepts every (resume-in, fragment, resume-out) triple the model
    produces (it is the statement evaluated on triples observed from the implementation). -/
theorem fragmentOK_of_layBox (O : Oracle γ) (b : Box) (s : RS) (g : γ) (pie : Bool) (br : BRes γ)
    (h : layBox O b s g pie = .ok br) :
    fragmentOK b s br.frag.leaves br.resume = true := by
  simp [fragmentOK, layBox_ok O b s g pie br h]

/-- `fragmentOK` is exactly fragment conservation. -/
theorem fragmentOK_iff (b : Box) (sIn : RS) (fl : List Nat) (sOut : Option RS) :
    fragmentOK b sIn fl sOut = true ↔ fl ++ fromOpt b sOut = b.from sIn := by
  simp [fragmentOK]

/-- A resume position cuts the document: what lies before it is a prefix (no reordering across a cut). -/
theorem from_start_is_document (b : Box) : b.from .start = b.leaves := Box.from_start b

/-! ## pages -/

/-- Whatever the page loop has produced so far is a prefix of the document from the start position. -/
theorem pages_prefix (P : PageInfo → Oracle γ × γ) (ltr : Bool) (root : Box) (fuel index : Nat) (s : PState) :
    pagesLeaves (pagesLoop P ltr root fuel index s).pages <+: root.from s.resume :=
  (pagesLoop_conserve P ltr root fuel index s).1

/-- **Page conservation.**  When the page loop ends (resume position nil), the concatenated pages are
    the document's lines from the start position: each exactly once, in order. -/
theorem pages_conserve (P : PageInfo → Oracle γ × γ) (ltr : Bool) (root : Box) (fuel index : Nat) (s : PState)
    (hd : (pagesLoop P ltr root fuel index s).done = true) :
    pagesLeaves (pagesLoop P ltr root fuel index s).pages = root.from s.resume :=
  (pagesLoop_conserve P ltr root fuel index s).2 hd

/-- `paginate` from the beginning of the document. -/
theorem paginate_conserves (P : PageInfo → Oracle γ × γ) (ltr : Bool) (root : Box) (fuel : Nat)
    (hd : (paginate P ltr root fuel).done = true) :
    pagesLeaves (paginate P ltr root fuel).pages = root.leaves := by
  have := pages_conserve P ltr root fuel 0 (initState ltr root) hd
  simpa [paginate, initState, Box.from_start] using this

/-- **Order.**  `paginate_conserves` is an equality of LISTS (not of multisets): the concatenation of the
    pages' line lists is the document's line list.  Spelled out: page k holds a contiguous run of the
    document, after everything on the pages before it and before everything on the pages after it. -/
theorem pages_in_document_order (P : PageInfo → Oracle γ × γ) (ltr : Bool) (root : Box) (fuel : Nat)
    (hd : (paginate P ltr root fuel).done = true) (k : Nat) (hk : k < (paginate P ltr root fuel).pages.length) :
    root.leaves = pagesLeaves ((paginate P ltr root fuel).pages.take k)
      ++ ((paginate P ltr root fuel).pages[k]).leaves
      ++ pagesLeaves ((paginate P ltr root fuel).pages.drop (k+1)) := by
  rw [← paginate_conserves P ltr root fuel hd]
  exact pagesLeaves_split _ k hk

/-- no reordering: if line `a` precedes line `b` on the pages, it precedes it in the document (the page
    sequence and the document are the same list) -/
theorem no_reordering (P : PageInfo → Oracle γ × γ) (ltr : Bool) (root : Box) (fuel : Nat)
    (hd : (paginate P ltr root fuel).done = true) (i : Nat) (hi : i < root.leaves.length) :
    (pagesLeaves (paginate P ltr root fuel).pages)[i]'(by rw [paginate_conserves P ltr root fuel hd]; exact hi)
      = root.leaves[i] := by
  simp [paginate_conserves P ltr root fuel hd]

/-- every token occurs on the pages exactly as often as in the document (exactly once when the
    document's tokens are distinct) -/
theorem paginate_count (P : PageInfo → Oracle γ × γ) (ltr : Bool) (root : Box) (fuel : Nat)
    (hd : (paginate P ltr root fuel).done = true) (t : Nat) :
    (pagesLeaves (paginate P ltr root fuel).pages).count t = root.leaves.count t := by
  rw [paginate_conserves P ltr root fuel hd]

/-- blank pages carry no content -/
theorem blank_page_empty (p : Page) (h : p.frag = none) : p.leaves = [] := by
  simp [Page.leaves, h]

/-! ## progress of the page loop -/

/-- With `pageIsEmpty` a box is never cancelled — for every box tree, resume position and oracle.  The
    root is laid out with `pageIsEmpty`, so the branch of `makePage` that panics with
    "expected non nil box for the root element" is unreachable for class F, however small the page. -/
theorem root_never_aborts (O : Oracle γ) (b : Box) (s : RS) (g : γ) (nb : NextPage) :
    layBox O b s g true ≠ .abort nb :=
  layBox_pie_ok O b s g nb

/-- A blank page is never followed by another blank page (every fuel, start index, loop state). -/
theorem no_two_blank_pages (P : PageInfo → Oracle γ × γ) (ltr : Bool) (root : Box) (fuel index : Nat) (s : PState) :
    NoBB (pagesLoop P ltr root fuel index s).pages :=
  (pagesLoop_noBB_head P ltr root fuel index s).1

/-- The page loop only ever stops early because the fuel ran out: with one more unit of fuel than pages
    produced the loop has ended (`done`), or the pages produced are exactly `fuel` many. -/
theorem loop_stops_only_on_fuel (P : PageInfo → Oracle γ × γ) (ltr : Bool) (root : Box) :
    ∀ (fuel index : Nat) (s : PState),
      (pagesLoop P ltr root fuel index s).done = true ∨ (pagesLoop P ltr root fuel index s).pages.length = fuel :=
  pagesLoop_induct P ltr root (M := fun fuel _ _ r => r.done = true ∨ r.pages.length = fuel)
    (fun _ _ => .inr rfl) (fun _ _ _ _ _ ih => ih.imp id (by simp)) (fun _ _ _ _ _ _ _ => .inl rfl)
    (fun _ _ _ _ _ _ _ _ _ ih => ih.imp id (by simp))

/-- **Progress.**  On an empty page (`pageIsEmpty`) a well-formed box (every paragraph has a line, every
    block a child, orphans ≥ 1) resumed at a proper position is not cancelled, places at least one line,
    and the returned resume position is proper again — for every oracle, i.e. however small the page. -/
theorem page_places_a_line (O : Oracle γ) (b : Box) (s : RS) (g : γ) (hwf : b.wf = true) (hs : proper b s = true) :
    ∃ br, layBox O b s g true = .ok br ∧ br.frag.leaves ≠ [] ∧ (∀ r, br.resume = some r → proper b r = true) := by
  cases h : layBox O b s g true with
  | abort nb => exact absurd h (layBox_pie_ok O b s g nb)
  | ok br => exact ⟨br, rfl, (layBox_prop O b s g true br hwf hs h).1, (layBox_prop O b s g true br hwf hs h).2.1⟩

example : (Box.block {} (.cons (.para {} [1, 2]) .nil)).wf = true ∧
    proper (Box.block {} (.cons (.para {} [1, 2]) .nil)) (.at 0 (.at 0 (.at 1 .start))) = true := by decide

/-- **Termination of the page loop** (the property DESIGN.md §5 lists under C01 by this name).  Every non-blank page places at least one
    line and a blank page is never followed by a blank page, so `2·#lines + 1` pages always suffice: the
    loop ends with `done = true` for every well-formed class-F document and every oracle (every page
    geometry, including pages too small for a single line, every @page rule set). -/
theorem paginate_progress (P : PageInfo → Oracle γ × γ) (ltr : Bool) (root : Box) (hwf : root.wf = true) :
    (paginate P ltr root (2 * root.leaves.length + 1)).done = true :=
  paginate_done P ltr root hwf

/-- … hence pagination conserves the text of every well-formed class-F document, unconditionally. -/
theorem paginate_total_conserves (P : PageInfo → Oracle γ × γ) (ltr : Bool) (root : Box) (hwf : root.wf = true) :
    pagesLeaves (paginate P ltr root (2 * root.leaves.length + 1)).pages = root.leaves :=
  paginate_conserves P ltr root _ (paginate_progress P ltr root hwf)

/-! ## the instance the driver executes -/

/-- The concrete geometry of blocks.go: conservation holds for every page geometry `dims` and line height. -/
theorem geo_paginate_conserves (lineH : Int) (dims : PageInfo → Int × Int) (ltr : Bool) (root : Box) (fuel : Nat)
    (hd : (paginate (geoPages lineH dims) ltr root fuel).done = true) :
    pagesLeaves (paginate (geoPages lineH dims) ltr root fuel).pages = root.leaves :=
  paginate_conserves _ ltr root fuel hd

/-- the concrete geometry of blocks.go (the instance the driver executes), any page geometry -/
theorem geo_paginate_total (lineH : Int) (dims : PageInfo → Int × Int) (ltr : Bool) (root : Box)
    (hwf : root.wf = true) :
    (paginate (geoPages lineH dims) ltr root (2 * root.leaves.length + 1)).done = true ∧
    pagesLeaves (paginate (geoPages lineH dims) ltr root (2 * root.leaves.length + 1)).pages = root.leaves :=
  ⟨paginate_progress _ ltr root hwf, paginate_total_conserves _ ltr root hwf⟩

def exampleDoc : Box := .block { root := true } (.cons (.para {} [1, 2, 3]) .nil)

example : exampleDoc.wf = true := by decide

/-- non-vacuity: a two-page document (page content height 40 px, lines of 20 px) whose loop ends -/
example : (paginate (geoPages 80 (fun _ => (40, 160))) true exampleDoc 3).done = true := by decide +kernel

/-! ## the judge -/

/-- the judge used on implementation output accepts exactly the conserving page sequences -/
theorem judgeFlow_ok_iff (doc : List Nat) (pages : List (List Nat)) :
    judgeFlow doc pages = .ok ↔ pages.flatten = doc := by
  unfold judgeFlow
  by_cases h : pages.flatten = doc
  · simp [h]
  · have hb : (pages.flatten == doc) = false := by simpa using h
    simp only [hb, Bool.false_eq_true, if_false]
    refine ⟨fun h' => ?_, fun h' => absurd h' h⟩
    split at h'
    · cases h'
    · split at h' <;> cases h'

theorem conserves_iff (doc : List Nat) (pages : List (List Nat)) :
    conserves doc pages = true ↔ pages.flatten = doc := by
  simp [conserves]

end WR.Props.C02
