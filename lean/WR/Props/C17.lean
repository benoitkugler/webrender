/-
  C17 — property theorems, with the few lemmas they rest on (C17 has no lemma module) and, for the
  angle-unit table, the three small functions its statements are written with.
  All theorems hold over an arbitrary field `K` (`Lean.Grind.Field`), for arbitrary functions
  `cos sin tan : K → K` (no trigonometric identity is needed for any of them).
-/
import WR.C17.Spec
import WR.Gen.C17Angles
set_option linter.unusedSectionVars false
namespace WR.Props.C17
open WR.Gen.Matrix WR.C17

variable {K : Type} [Lean.Grind.Field K] [DecidableEq K] (tr : Trig K)

open Lean.Grind.Semiring (one_mul zero_mul add_zero)
open Lean.Grind.AddCommMonoid (zero_add)

/-! ## the matrix package: `m_apply` is a faithful action, and the group laws follow from that -/

/-- Apply is a homomorphism: applying `T·U` is applying `U` then `T`. -/
theorem apply_mul (t u : T K) (x y : K) :
    m_apply (f_mul t u) x y = m_apply t (m_apply u x y).1 (m_apply u x y).2 := by
  simp only [m_apply, f_mul, Prod.mk.injEq]; grind

theorem apply_identity (x y : K) : m_apply (f_identity : T K) x y = (x, y) := by
  simp only [m_apply, f_identity, one_mul, zero_mul, add_zero, zero_add]

/-- an affine map is determined by the matrix read off three points -/
theorem matrixOf_apply (t : T K) : matrixOf (fun p => m_apply t p.1 p.2) = t := by
  cases t; simp only [matrixOf, m_apply, T.mk.injEq]; grind

theorem apply_ext {t u : T K} (h : ∀ x y, m_apply t x y = m_apply u x y) : t = u := by
  rw [← matrixOf_apply t, ← matrixOf_apply u]
  simp only [h]

theorem mul_assoc (r s t : T K) : f_mul (f_mul r s) t = f_mul r (f_mul s t) :=
  apply_ext fun x y => by simp only [apply_mul]

theorem mul_identity_left (t : T K) : f_mul f_identity t = t :=
  apply_ext fun x y => by rw [apply_mul, apply_identity]

theorem mul_identity_right (t : T K) : f_mul t f_identity = t :=
  apply_ext fun x y => by rw [apply_mul, apply_identity]

/-- Invert succeeds exactly when the determinant is non-zero, and is then a two-sided inverse. -/
theorem invert_two_sided (t : T K) (h : m_determinant t ≠ 0) :
    ∃ i, m_invert t = some i ∧ f_mul i t = f_identity ∧ f_mul t i = f_identity := by
  simp only [m_determinant] at h
  refine ⟨_, if_neg h, ?_⟩
  simp only [f_mul, f_identity, T.mk.injEq]; grind

theorem invert_singular (t : T K) (h : m_determinant t = 0) : m_invert t = none :=
  if_pos h

theorem determinant_mul (t u : T K) :
    m_determinant (f_mul t u) = m_determinant t * m_determinant u := by
  simp only [m_determinant, f_mul]; grind

/-! `mult`, `Mul`, `Mul3`, `LeftMultBy`, `RightMultBy` are all the one product. -/

theorem mult_eq_mul (t u o : T K) : f_mult t u o = f_mul t u := rfl

theorem mul3_eq (r s t : T K) : f_mul3 r s t = f_mul r (f_mul s t) := by
  simp only [f_mul3, f_mul]

theorem rightMultBy_eq (t u : T K) : m_rightMultBy t u = f_mul t u := rfl

theorem leftMultBy_eq (t u : T K) : m_leftMultBy t u = f_mul u t := rfl

/-! the in-place operations equal right multiplication by the corresponding constructor -/

theorem translate_eq (t : T K) (x y : K) : m_translate t x y = f_mul t (f_translation x y) := by
  cases t; simp only [m_translate, f_mul, f_translation, T.mk.injEq]; grind

theorem scale_eq (t : T K) (x y : K) : m_scale t x y = f_mul t (f_scaling x y) := by
  cases t; simp only [m_scale, f_mul, f_scaling, T.mk.injEq]; grind

theorem rotate_eq (t : T K) (a : K) : m_rotate tr t a = f_mul t (f_rotation tr a) := by
  simp only [m_rotate, f_mul, f_rotation]

theorem skew_eq (t : T K) (a b : K) : m_skew tr t a b = f_mul t (f_skew tr a b) := by
  simp only [m_skew, f_mul, f_skew]

/-! ## each transform function maps to the matrix the specifications define -/

/-- every CSS function's matrix denotes the point map CSS Transforms defines
    (in particular `skew ax ay` is `x' = x + tan(ax)·y, y' = tan(ay)·x + y`). -/
theorem fn_matches_spec (f : Fn K) (x y : K) :
    m_apply (fnMatrix tr f) x y = specFn tr f (x, y) := by
  cases f <;> simp only [fnMatrix, specFn, m_apply, m_scale, m_rotate, m_translate, m_skew, f_new,
    f_identity, one_mul, zero_mul, add_zero, zero_add, Prod.mk.injEq]
  case rotate => grind

private theorem foldl_apply (fs : List (Fn K)) (m : T K) (x y : K) :
    m_apply (fs.foldl (fun m f => m_rightMultBy m (fnMatrix tr f)) m) x y
      = m_apply m (specList tr fs (x, y)).1 (specList tr fs (x, y)).2 := by
  induction fs generalizing m with
  | nil => rfl
  | cons f fs ih => rw [List.foldl_cons, ih, rightMultBy_eq, apply_mul, fn_matches_spec]; rfl

/-- The matrix handed to the backend for a CSS `transform` list with a
    `transform-origin` denotes `T(origin) ∘ f₁ ∘ … ∘ fₙ ∘ T(−origin)`, for every list. -/
theorem css_list_to_matrix (ox oy : K) (fs : List (Fn K)) (x y : K) :
    m_apply (cssMatrix tr ox oy fs) x y = specCss tr ox oy fs (x, y) := by
  simp only [cssMatrix, translate_eq, apply_mul, foldl_apply]
  simp only [m_apply, f_translation, f_new, specCss, one_mul, zero_mul, add_zero, zero_add,
    Lean.Grind.Ring.sub_eq_add_neg]

theorem svgApply_eq_mul (rad : K → K) (m : T K) (f : SvgFn K) :
    svgApply tr rad m f = f_mul m (svgApply tr rad f_identity f) := by
  cases f <;> simp only [svgApply, translate_eq, rotate_eq, scale_eq, skew_eq, rightMultBy_eq,
    mul_identity_left, mul_assoc]

theorem svgFn_matches_spec (rad : K → K) (f : SvgFn K) (x y : K) :
    m_apply (svgApply tr rad f_identity f) x y = specSvgFn tr rad f (x, y) := by
  cases f with
  | rotate a => exact fn_matches_spec tr (.rotate (rad a)) x y
  | translate tx ty => exact fn_matches_spec tr (.translate tx ty) x y
  | skew ax ay => exact fn_matches_spec tr (.skew (rad ax) (rad ay)) x y
  | scale sx sy => exact fn_matches_spec tr (.scale sx sy) x y
  | matrix a b c d e f =>
    rw [svgApply, rightMultBy_eq, mul_identity_left]
    exact fn_matches_spec tr (.matrix a b c d e f) x y
  | rotateO a cx cy =>
    simp only [svgApply, specSvgFn, specFn, m_apply, m_rotate, m_translate, f_identity, Prod.mk.injEq]
    grind

/-- The matrix built for an SVG `transform` attribute denotes the composition,
    left to right, of the SVG 1.1 maps, incl. `rotate(a,cx,cy) = T(cx,cy)·R(a)·T(−cx,−cy)`. -/
theorem svg_transform (rad : K → K) (fs : List (SvgFn K)) (x y : K) :
    m_apply (svgMatrix tr rad fs) x y = specSvgList tr rad fs (x, y) := by
  suffices h : ∀ m : T K, m_apply (fs.foldl (svgApply tr rad) m) x y
      = m_apply m (specSvgList tr rad fs (x, y)).1 (specSvgList tr rad fs (x, y)).2 by
    rw [svgMatrix, h, apply_identity]
  induction fs with
  | nil => intro m; rfl
  | cons f fs ih =>
    intro m
    rw [List.foldl_cons, ih, svgApply_eq_mul, apply_mul, svgFn_matches_spec]; rfl

/-- one-argument forms: `translate(x) = translate(x,0)`, `scale(s) = scale(s,s)`,
    `skewX(a) = skew(a,0)`, `skewY(a) = skew(0,a)`; wrong argument counts are errors. -/
theorem svg_defaults (a : K) :
    svgOfArgs "translate" [a] = some (.translate a 0) ∧ svgOfArgs "scale" [a] = some (.scale a a)
    ∧ svgOfArgs "skewx" [a] = some (.skew a 0) ∧ svgOfArgs "skewy" [a] = some (.skew 0 a)
    ∧ svgOfArgs "rotate" [a, a] = none ∧ svgOfArgs "matrix" [a] = none := by
  exact ⟨rfl, rfl, rfl, rfl, rfl, rfl⟩

/-! ## the regenerated angle-unit table (css/validation ANGLETORADIANS): exactly deg, grad, rad, turn,
    float32 factors within 2⁻²² relative of 1 turn = 360 deg = 400 grad = 2π rad -/
section Angles
open WR.Gen.C17Angles

/-- factor of a unit as a pair (numerator, exponent): value = num / 2^exp -/
def factor? (u : String) : Option (Int × Nat) := (table.find? (·.1 == u)).map (·.2)

/-- `a/2^ea` and `b/2^eb` agree within relative 2⁻²²: |a·2^eb − b·2^ea|·2²² ≤ |b|·2^ea -/
def closeDyadic (a : Int × Nat) (b : Int × Nat) : Bool :=
  (a.1 * 2 ^ b.2 - b.1 * 2 ^ a.2).natAbs * 2 ^ 22 ≤ (b.1 * 2 ^ a.2).natAbs

def scale (k : Int) (a : Int × Nat) : Int × Nat := (k * a.1, a.2)

/-- exactly the four CSS angle units are accepted -/
theorem angle_units_exact : table.map (·.1) = ["deg", "grad", "rad", "turn"] := rfl

/-- 1 rad is the unit -/
theorem rad_is_one : factor? "rad" = some (1, 0) := by decide

/-- 360 deg = 400 grad = 1 turn (within float32 rounding) -/
theorem angle_unit_ratios :
    (do let d ← factor? "deg"; let g ← factor? "grad"; let t ← factor? "turn"
        pure (closeDyadic (scale 360 d) t && closeDyadic (scale 400 g) t)) = some true := by decide

/-- 1 turn = 2π rad: 6.283185 < turn < 6.283186 -/
theorem turn_is_two_pi :
    (do let t ← factor? "turn"
        pure (decide (6283185 * 2 ^ t.2 < t.1 * 1000000 ∧ t.1 * 1000000 < 6283186 * 2 ^ t.2))) = some true := by
  decide

end Angles

/-! ## non-vacuity -/
example : m_determinant ({ a := 2, b := 0, c := 0, d := 3, e := 1, f := 1 } : T Rat) ≠ 0 := by
  decide +kernel
example : m_invert ({ a := 2, b := 0, c := 0, d := 3, e := 1, f := 1 } : T Rat)
    = some { a := 1/2, b := 0, c := 0, d := 1/3, e := -1/2, f := -1/3 } := by
  decide +kernel

end WR.Props.C17
