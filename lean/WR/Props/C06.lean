/-
  C06 — CSS text is tokenized and parsed as CSS Syntax Level 3 prescribes.
  Property theorems about the model the driver `wrm_c06` executes
  (WR/C06/Tokenizer.lean, Parser.lean).  Helper lemmas: WR/C06/Lemmas.lean, Progress.lean,
  ParserLemmas.lean.  All quantifiers are unbounded (all strings, all token lists, all fuel values).
-/
import WR.C06.ParserLemmas
import WR.C06.Nth
namespace WR.Props.C06
open WR.C06 List

/-! ## §3.3 preprocessing -/

/-- after preprocessing there is no NUL, CR or FF left -/
theorem preprocess_clean (s : Str) : ∀ c ∈ preprocess s, isRaw c = false := by
  fun_induction preprocess s with
  | case1 => exact fun _ h => (not_mem_nil h).elim
  | case2 cs ih => exact forall_mem_cons.mpr ⟨rfl, ih⟩
  | case3 c cs _ ih =>
    refine forall_mem_cons.mpr ⟨?_, ih⟩
    by_cases h0 : c = '\x00'
    · rw [if_pos h0]; rfl
    · by_cases h1 : c = '\r' ∨ c = '\x0c'
      · rw [if_neg h0, if_pos h1]; rfl
      · rw [if_neg h0, if_neg h1]
        simp [isRaw, h0, not_or.mp h1]

/-- text without NUL, CR, FF is unchanged -/
theorem preprocess_id (s : Str) (h : ∀ c ∈ s, isRaw c = false) : preprocess s = s := by
  fun_induction preprocess s with
  | case1 => rfl
  | case2 cs ih => cases h '\r' mem_cons_self
  | case3 c cs _ ih =>
    have ⟨hc, hcs⟩ := forall_mem_cons.mp h
    simp only [isRaw, Bool.or_eq_false_iff, decide_eq_false_iff_not] at hc
    rw [ih hcs, if_neg hc.1.1, if_neg (not_or.mpr ⟨hc.1.2, hc.2⟩)]

theorem preprocess_idempotent (s : Str) : preprocess (preprocess s) = preprocess s :=
  preprocess_id _ (preprocess_clean s)

/-- the four replacements of css-syntax-3 §3.3 -/
theorem preprocess_spec (s : Str) (c : Char) :
    preprocess ('\r' :: '\n' :: s) = '\n' :: preprocess s ∧
    preprocess ('\x0c' :: s) = '\n' :: preprocess s ∧
    preprocess ('\x00' :: s) = '\uFFFD' :: preprocess s ∧
    (isRaw c = false → preprocess (c :: s) = c :: preprocess s) ∧
    (∀ d, d ≠ '\n' → preprocess ('\r' :: d :: s) = '\n' :: preprocess (d :: s)) ∧
    preprocess ['\r'] = ['\n'] := by
  refine ⟨by simp [preprocess], by simp [preprocess], by simp [preprocess], ?_, ?_, by simp [preprocess]⟩
  · intro h; simp_all [isRaw, preprocess]
  · intro d hd
    rw [preprocess.eq_def]
    simp_all

-- the hypothesis of `preprocess_id` / `preprocess_spec` can be met
example : ∃ c : Char, isRaw c = false := ⟨'a', by decide⟩

/-! ## progress and fuel -/

/-- every token consumer removes at least one code point and leaves a contiguous tail of its input
(holds for the code's variants too) -/
theorem consume_progress (q : Quirks) (total : Nat) (inp r : Str)
    (h : (step q total inp).rest? = some r) : Proper r inp :=
  step_progress q total inp r h

example : (step Quirks.spec 3 ['a', ' ', 'b']).rest? = some [' ', 'b'] := by decide

/-- the fuel `length + 1` handed to the component-value builder is never exhausted: any larger
fuel gives the same token tree and the same rest (nested blocks included) -/
theorem tokenize_total (q : Quirks) (total f : Nat) (e : Option Char) (inp : Str)
    (h : inp.length + 1 ≤ f) :
    consumeList q total f e inp = consumeList q total (inp.length + 1) e inp :=
  consumeList_fuel q total f e inp h

-- the hypothesis of `tokenize_total` can be met
example : ([' '] : Str).length + 1 ≤ 5 := by decide

/-- the fuel `length` handed to the name / string / url loops is never exhausted -/
theorem inner_loops_total (q : Quirks) (quote : Char) (f : Nat) (s : Str) (h : s.length ≤ f) :
    consumeName f s = consumeName s.length s ∧
    consumeString quote f s = consumeString quote s.length s ∧
    consumeUrlBody q f s = consumeUrlBody q s.length s ∧
    badUrlRemnants q f s = badUrlRemnants q s.length s :=
  ⟨consumeName_fuel f s h, consumeString_fuel quote f s h, consumeUrlBody_fuel q f s h,
    badUrlRemnants_fuel q f s h⟩

/-- what a nesting level hands back to its parent is a contiguous tail of what it was given -/
theorem block_rest_is_tail (q : Quirks) (total f : Nat) (e : Option Char) (inp : Str) :
    (consumeList q total f e inp).2 <:+ inp :=
  consumeList_suffix q total f e inp

/-- the top level consumes the whole input: EOF closes every open construct -/
theorem tokenize_consumes_all (s : Str) :
    (consumeList Quirks.spec s.length (s.length + 1) none s).2 = [] :=
  consumeList_top_rest s.length (s.length + 1) s (by omega)

/-! ## the tokens' source texts partition the input (flat token stream) -/

theorem pieces_flatten (q : Quirks) (total f : Nat) (inp : Str) (h : inp.length < f) :
    (pieces q total f inp).flatten = inp ∧ ∀ p ∈ pieces q total f inp, p ≠ [] := by
  induction f generalizing inp with
  | zero => omega
  | succ f ih =>
    unfold pieces
    cases hr : (step q total inp).rest? with
    | none =>
      have := step_eof q total inp hr
      subst this; simp
    | some r =>
      have hp := step_progress q total inp r hr
      have ⟨h1, h2⟩ := ih r (by have := hp.2; omega)
      exact ⟨by rw [flatten_cons, h1, hp.take_append], forall_mem_cons.mpr ⟨hp.take_ne_nil, h2⟩⟩

/-- the source texts of the successive tokens tile the input: nothing skipped, nothing read twice,
no empty token (flat token stream; the nesting levels hand over contiguous tails, see
`block_rest_is_tail`, and the top level reaches the end, see `tokenize_consumes_all`) -/
theorem spans_partition_flat (q : Quirks) (s : Str) :
    (pieces q s.length (s.length + 1) s).flatten = s ∧ ∀ p ∈ pieces q s.length (s.length + 1) s, p ≠ [] :=
  pieces_flatten q s.length (s.length + 1) s (by omega)

/-- the representation kept in a numeric token is exactly the source text it was read from -/
theorem number_repr_is_source (inp repr rest : Str) (isInt : Bool)
    (h : consumeNumber inp = some (repr, isInt, rest)) : repr ++ rest = inp ∧ repr ≠ [] :=
  consumeNumber_append inp repr rest isInt h

example : consumeNumber ['-', '1', '.', '5', 'e', '3', 'x'] = some (['-', '1', '.', '5', 'e', '3'], false, ['x']) := by
  decide

/-! ## recovery at the character level -/

/-- a string ends at its first unescaped quote: exactly `s` and the quote are consumed -/
theorem string_extent (quote : Char) (s r : Str) (f : Nat) (hf : s.length < f)
    (hs : ∀ c ∈ s, c ≠ quote ∧ c ≠ '\n' ∧ c ≠ '\\') :
    consumeString quote f (s ++ quote :: r) = (s, .closed, r) := by
  obtain ⟨k, rfl⟩ := Nat.exists_eq_add_of_lt hf
  rw [Nat.add_assoc, consumeString_append quote s _ _ hs, consumeString.eq_def]
  dsimp only
  rw [if_pos rfl, append_nil]

/-- a bad string stops BEFORE the newline: the newline is left for the next token -/
theorem bad_string_stops_before_newline (quote : Char) (s r : Str) (f : Nat) (hf : s.length < f)
    (hq : quote ≠ '\n') (hs : ∀ c ∈ s, c ≠ quote ∧ c ≠ '\n' ∧ c ≠ '\\') :
    consumeString quote f (s ++ '\n' :: r) = (s, .newline, '\n' :: r) := by
  obtain ⟨k, rfl⟩ := Nat.exists_eq_add_of_lt hf
  rw [Nat.add_assoc, consumeString_append quote s _ _ hs, consumeString.eq_def]
  dsimp only
  rw [if_neg hq.symm, if_pos rfl, append_nil]

-- the hypothesis on `s` of the two theorems above can be met
example : ∀ c ∈ (['a', ' ', ';'] : Str), c ≠ '"' ∧ c ≠ '\n' ∧ c ≠ '\\' := by decide

/-- the remnants of a bad url end just after the first `)` (no escapes in between) -/
theorem bad_url_remnants_extent (s r : Str) (f : Nat) (hf : s.length < f)
    (hs : ∀ c ∈ s, c ≠ ')' ∧ c ≠ '\\') :
    badUrlRemnants Quirks.spec f (s ++ ')' :: r) = r :=
  badUrlRemnants_close _ s r f hf hs

/-- … an escaped `)` does not end them, an escaped backslash does not hide the `)` after it -/
theorem bad_url_remnants_escapes (r : Str) (f : Nat) :
    badUrlRemnants Quirks.spec (f + 2) ('\\' :: ')' :: r) = badUrlRemnants Quirks.spec (f + 1) r ∧
    badUrlRemnants Quirks.spec (f + 3) ('\\' :: '\\' :: ')' :: r) = r := by
  constructor <;> simp [badUrlRemnants, Quirks.spec, validEscTail, consumeEscape, isHex, isDigit]

/-- a closing bracket is a one-code-point token of its own -/
theorem closer_is_one_code_point (q : Quirks) (total : Nat) (c : Char) (cs : Str)
    (h : c = '}' ∨ c = ']' ∨ c = ')') : step q total (c :: cs) = .close c cs := by
  -- `stepPunct` on each of the three literals evaluates to `.close`
  rcases h with rfl | rfl | rfl <;>
    exact (step_eq_stepPunct _ _ _ _ (by decide) (by decide) (by decide) (by decide) (by decide)).trans rfl

/-- a comment ends at its first `*/` (body without `*`) -/
theorem comment_extent (b r : Str) (hb : ∀ c ∈ b, c ≠ '*') :
    consumeComment (b ++ '*' :: '/' :: r) = some (b, r) := by
  induction b with
  | nil => rfl
  | cons c cs ih =>
    have ⟨hc, hcs⟩ := forall_mem_cons.mp hb
    rw [cons_append, consumeComment, ih hcs]
    rintro _ rfl
    exact absurd rfl hc

/-! ### regression examples: the minimal inputs of the four repaired defects (each is also a corpus
case replayed against the real code first, /verif/corpus/C06).  The `regression_*` theorems give the
token tree css-syntax-3 prescribes — which the code now produces —, the `former_*` theorems show
that the corresponding `Quirks` switch reproduces the old behaviour, so that a regression is
attributed by name (F06-1 was an index out of range and has no switch). -/

/-- F06-1 (789077b): a final `-` is a delimiter, after a number, `@`, `#` or alone -/
theorem regression_F06_1 :
    Tok.beqList (tokenizePre Quirks.spec ['-']) [.lit 0 ['-']] = true ∧
    Tok.beqList (tokenizePre Quirks.spec ['1', '-']) [.num 0 ['1'] true, .lit 1 ['-']] = true ∧
    Tok.beqList (tokenizePre Quirks.spec ['@', '-']) [.lit 0 ['@'], .lit 1 ['-']] = true ∧
    Tok.beqList (tokenizePre Quirks.spec ['#', '-']) [.hash 0 ['-'] false] = true := by decide

/-- F06-2 (166f11f), `a{/*c`: EOF inside a comment ends the input at every nesting level -/
theorem regression_F06_2 : Tok.beqList (tokenizePre Quirks.spec ['a', '{', '/', '*', 'c'])
    [.ident 0 ['a'], .block 1 .curly [.comment 2 ['c']]] = true := by decide
theorem former_F06_2 : Tok.beqList (tokenizePre { commentEof := true } ['a', '{', '/', '*', 'c'])
    [.ident 0 ['a'], .block 1 .curly [.comment 2 ['c']], .lit 3 ['*'], .ident 4 ['c']] = true := by decide

/-- F06-3 (3c4b882), `url(a"\\)b`: the bad url ends at the `)` after the escaped backslash -/
theorem regression_F06_3 : Tok.beqList (tokenizePre Quirks.spec ['u', 'r', 'l', '(', 'a', '"', '\\', '\\', ')', 'b'])
    [.error 0 'u', .ident 9 ['b']] = true := by decide
theorem former_F06_3 : Tok.beqList (tokenizePre { badUrlPair := true } ['u', 'r', 'l', '(', 'a', '"', '\\', '\\', ')', 'b'])
    [.error 0 'u'] = true := by decide

/-- F06-4 (a0c66b4), `url(a\<newline>)`: an invalid escape makes the url a bad url -/
theorem regression_F06_4 : Tok.beqList (tokenizePre Quirks.spec ['u', 'r', 'l', '(', 'a', '\\', '\n', ')'])
    [.error 0 'u'] = true := by decide
theorem former_F06_4 : Tok.beqList (tokenizePre { urlBackslashNl := true } ['u', 'r', 'l', '(', 'a', '\\', '\n', ')'])
    [.url 0 ['a', '\\'] false] = true := by decide

/-! ## recovery at the component-value level: declarations, at-rules, qualified rules -/

/-- whatever a list-level consumer leaves is a contiguous tail of what it was given: a malformed
construct can neither duplicate nor re-order the tokens that follow it -/
theorem consumers_leave_a_tail (m : Mode) (t : Tok) (ts : List Tok) : (consumeOne m t ts).2 <:+ ts :=
  consumeOne_suffix m t ts

/-- the fuel `length` of the list loops is never exhausted -/
theorem parse_list_total (m : Mode) (c w : Bool) (f : Nat) (ts : List Tok) (h : ts.length ≤ f) :
    parseListF m c w f ts = parseList m c w ts :=
  parseListF_fuel m c w f ts h

/-- a declaration — well formed or not — consumes exactly the tokens up to the next top-level `;`:
the declarations after it are parsed as if it were not there -/
theorem declaration_list_recovery (c w : Bool) (first semi : Tok) (d r : List Tok)
    (hf : startsDecl first) (hd : noSemi d) (hs : isSemi semi = true) :
    parseList .decls c w (first :: d ++ semi :: r)
      = parseDeclaration first d :: parseList .decls c w r := by
  rw [cons_append, parseList_cons _ _ _ _ _ hf.1, consumeOne_decls _ hf, consumeDeclInList,
    splitSemi_semi d r semi hd hs]
  rfl

/-- … and the last declaration runs to the end of the input -/
theorem declaration_list_eof (c w : Bool) (first : Tok) (d : List Tok)
    (hf : startsDecl first) (hd : noSemi d) :
    parseList .decls c w (first :: d) = [parseDeclaration first d] := by
  rw [parseList_cons _ _ _ _ _ hf.1, consumeOne_decls _ hf, consumeDeclInList, splitSemi_eof d hd]
  rfl

-- `startsDecl` and `noSemi` can be met
example : startsDecl (Tok.num 0 ['1'] true) ∧ noSemi [Tok.lit 1 [':'], Tok.ident 2 ['x']] := by
  refine ⟨⟨rfl, rfl, by intro p kw h; cases h⟩, ?_⟩
  intro t ht
  simp at ht
  rcases ht with rfl | rfl <;> rfl

/-- an at-rule ends at its first top-level `{}` block … -/
theorem at_rule_ends_at_block (pos p : Nat) (kw : Str) (pre r args : List Tok) (hp : noSemiNoCurly pre) :
    consumeAtRule pos kw (pre ++ Tok.block p .curly args :: r) = (.atrule pos kw pre (some args), r) := by
  rw [consumeAtRule, atRuleBody_curly pre r p args hp]

/-- … or at its first top-level `;` … -/
theorem at_rule_ends_at_semicolon (pos : Nat) (kw : Str) (pre r : List Tok) (semi : Tok)
    (hs : isSemi semi = true) (hp : noSemiNoCurly pre) :
    consumeAtRule pos kw (pre ++ semi :: r) = (.atrule pos kw pre none, r) := by
  rw [consumeAtRule, atRuleBody_semi pre r semi hs hp]

/-- … or at the end of the input -/
theorem at_rule_ends_at_eof (pos : Nat) (kw : Str) (pre : List Tok) (hp : noSemiNoCurly pre) :
    consumeAtRule pos kw pre = (.atrule pos kw pre none, []) := by
  rw [consumeAtRule, atRuleBody_eof pre hp]

/-- a qualified rule ends at its `{}` block (`;` does not end it at the top level) -/
theorem qualified_rule_ends_at_block (first : Tok) (p : Nat) (pre r args : List Tok)
    (hf : isCurly first = false) (hp : noCurly pre) :
    consumeQualifiedRule first (pre ++ Tok.block p .curly args :: r) false
      = (.qrule first.pos (first :: pre) args, r) :=
  consumeQualifiedRule_curly false first pre r p args hf nofun fun t ht => ⟨hp t ht, nofun⟩

/-- rule lists: after a qualified rule the list goes on exactly behind its block … -/
theorem rule_list_recovery (c w : Bool) (first : Tok) (p : Nat) (pre r args : List Tok)
    (hf : startsDecl first) (hc : isCurly first = false) (hp : noCurly pre) :
    parseList .rules c w (first :: pre ++ Tok.block p .curly args :: r)
      = .qrule first.pos (first :: pre) args :: parseList .rules c w r := by
  rw [cons_append, parseList_cons _ _ _ _ _ hf.1, consumeOne]
  dsimp only
  rw [consumeRule, qualified_rule_ends_at_block first p pre r args hc hp]
  · rfl
  · exact hf.2.2

/-- … and likewise after an at-rule with a block -/
theorem rule_list_at_rule (c w : Bool) (pos p : Nat) (kw : Str) (pre r args : List Tok)
    (hp : noSemiNoCurly pre) :
    parseList .rules c w (Tok.atkw pos kw :: pre ++ Tok.block p .curly args :: r)
      = .atrule pos kw pre (some args) :: parseList .rules c w r := by
  rw [cons_append, parseList_cons _ _ _ _ _ rfl, consumeOne]
  dsimp only
  rw [consumeRule, at_rule_ends_at_block pos p kw pre r args hp]
  rfl

-- `noSemiNoCurly` and `noCurly` can be met
example : noSemiNoCurly [Tok.ws 1 [' '], Tok.ident 2 ['x']] ∧ noCurly [Tok.lit 0 [';']] := by
  constructor
  · intro t ht; simp at ht; rcases ht with rfl | rfl <;> exact ⟨rfl, rfl⟩
  · intro t ht; simp at ht; subst ht; rfl

/-- block contents: a declaration or nested rule ends at the first top-level `;` … -/
theorem blocks_content_ends_at_semicolon (first semi : Tok) (d r : List Tok)
    (hc : isCurly first = false) (hd : noSemiNoCurly d) (hs : isSemi semi = true) :
    (consumeBlocksContent first (d ++ semi :: r)).2 = r := by
  rw [consumeBlocksContent_snd, hc, splitBlockContent_semi d r semi hd hs]
  rfl

/-- … or just after the first top-level `{}` block (nested rule, or a declaration holding a block) -/
theorem blocks_content_ends_at_block (first : Tok) (p : Nat) (d r args : List Tok)
    (hc : isCurly first = false) (hd : noSemiNoCurly d) :
    (consumeBlocksContent first (d ++ Tok.block p .curly args :: r)).2 = r := by
  rw [consumeBlocksContent_snd, hc, splitBlockContent_curly d r p args hd]
  rfl

/-- the nested-rule fallback: what is not a declaration and runs into a `{}` block is the
qualified rule made of exactly those tokens -/
theorem blocks_content_nested_rule (first : Tok) (p : Nat) (d r args : List Tok)
    (hc : isCurly first = false) (hs : isSemi first = false) (hd : noSemiNoCurly d)
    (hnd : ∀ q n v i, parseDeclaration first (d ++ [Tok.block p .curly args]) ≠ .decl q n v i) :
    consumeBlocksContent first (d ++ Tok.block p .curly args :: r)
      = (.qrule first.pos (first :: d) args, r) := by
  unfold consumeBlocksContent
  -- by `hnd`, the `match` on the attempted declaration takes its fallback branch
  simp only [hc, Bool.false_eq_true, ↓reduceIte, splitBlockContent_curly d r p args hd]
  rw [append_nil, consumeQualifiedRule_curly true first d [] p args hc (fun _ => hs)
    fun t ht => ⟨(hd t ht).2, fun _ => (hd t ht).1⟩]

-- the hypothesis `hnd` of `blocks_content_nested_rule` can be met
example : ∀ q n v i, parseDeclaration (Tok.ident 0 ['a']) ([] ++ [Tok.block 1 .curly []]) ≠ .decl q n v i := by
  intro q n v i h
  simp [parseDeclaration, nextSignificant, isTrivia, isLit] at h

/-! ## An+B (css-syntax-3 §6; model WR/C06/Nth.lean, compared with parser.ParseNth by the harness) -/

/-- an explicitly signed number after the `+` / `-` operator is not in the grammar; the signless and the
directly signed forms are -/
theorem anb_examples :
    parseNth (tokenizePre Quirks.spec ['2', 'n', ' ', '+', ' ', '+', '1']) = none ∧
    parseNth (tokenizePre Quirks.spec ['n', ' ', '-', ' ', '-', '0']) = none ∧
    parseNth (tokenizePre Quirks.spec ['2', 'n', ' ', '+', ' ', '1']) = some (2, 1) ∧
    parseNth (tokenizePre Quirks.spec ['2', 'n', ' ', '+', '1']) = some (2, 1) ∧
    parseNth (tokenizePre Quirks.spec ['-', 'n', '-', ' ', '3']) = some (-1, -3) ∧
    parseNth (tokenizePre Quirks.spec ['+', ' ', 'n']) = none ∧
    parseNth (tokenizePre Quirks.spec ['O', 'd', 'D']) = some (2, 1) := by decide

/-- the end test `nthEnd` after a complete An+B fails as soon as a significant token follows -/
theorem anb_nothing_after (ts : List Tok) (t : Tok) (rest : List Tok)
    (h : nextSignificant ts = some (t, rest)) : nthEnd ts = false := by
  simp [nthEnd, h]

end WR.Props.C06
