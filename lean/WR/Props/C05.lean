/-
  C05 — property theorems.  Selectors match and weigh elements as the Selectors spec defines.

  Model: WR/C05/Model.lean (`selMatch`, `specificity`: mirrors of the Go `Match` / `Specificity`
  methods, executed by the driver).  Definition: WR/C05/Spec.lean (`Matches`, `HasSpecificity`).
  Hypotheses of the theorems: WR/C05/Domain.lean.  The parser, the printer and the selectors that
  print and parse back: WR/C05/Parser.lean, Printer.lean, Printable.lean.
-/
import WR.C05.LemmasMatch
import WR.C05.LemmasSpec
import WR.C05.LemmasDom
import WR.C05.LemmasParseTotal
import WR.C05.LemmasRT3
namespace WR.Props.C05
open WR.C05 WR.C05.Spec WR.C05.Lemmas

/-! ## an+b -/

/-- Go's `i -= b; i%a == 0 && i/a >= 0` (truncating `%` and `/`) is `∃ n ≥ 0, i = a·n + b`,
    for all integers, `a ≠ 0`. -/
theorem nth_go_iff (a b i : Int) (ha : a ≠ 0) :
    ((i - b).tmod a = 0 ∧ (i - b).tdiv a ≥ 0) ↔ ∃ n : Nat, i = a * n + b := by
  have := nthGo_iff a (i - b) ha
  simp only [nthGo, Bool.and_eq_true, beq_iff_eq, decide_eq_true_eq] at this
  rw [this]
  constructor
  · rintro ⟨n, h⟩; exact ⟨n, by omega⟩
  · rintro ⟨n, h⟩; exact ⟨n, by omega⟩

/-- a negative `a`: `-2n+5` selects the first child with `n = 2` -/
example : ∃ n : Nat, (1 : Int) = (-2) * n + 5 := ⟨2, by decide⟩

/-- `:nth-*(an+b)` in the model — the counting loops of `nthChildMatch`, and for `a = 0` the
    early-exit loops of `simpleNth(Last)ChildMatch` — is: the element's 1-based index among its
    element siblings (of the same type for `-of-type`, from the end for `-last-`) is `a·n + b`
    for some `n ≥ 0`. -/
theorem nth_matches_spec (a b : Int) (last ofType : Bool) (l : Loc) :
    selMatch (.nth a b last ofType) l = true ↔
      l.kind = .elem ∧ HasParent l ∧ ∃ n : Nat, (index last ofType l : Int) = a * n + b :=
  nth_iff a b last ofType l

/-- `:only-child` / `:only-of-type`: the loop with its early `return false` says "no other counted sibling" -/
theorem only_matches_spec (ofType : Bool) (l : Loc) :
    selMatch (.only ofType) l = true ↔
      l.kind = .elem ∧ HasParent l ∧ ∀ s ∈ l.prevSibs ++ l.nextSibs, counts ofType l s = false :=
  only_iff ofType l

/-! ## attribute operators -/

/-- every attribute operator on one attribute value: empty values of `~= ^= $= *=` match nothing,
    the `i` flag is ASCII case-insensitive; `valOk` excludes only non-empty blank values of `^= $= *=` -/
theorem attr_value_matches_spec (val : Str) (op : AttrOp) (ic : Bool) (s : Str) (hne : op ≠ .ne)
    (hv : valOk op val = true) : valMatch val op ic s = true ↔ ValHolds op ic val s :=
  valMatch_iff val op ic s hne hv

/-- only an all-blank value is outside `valOk` -/
example : valOk .pre ['x', ' '] = true := by decide

/-! ## the matching relation -/

/-
  Full statement (false on the code as it is, see `blank_value_deviation_witness`):
    theorem matches_iff_spec (hS : DomOk S) : ∀ s l, S l → (selMatch s l = true ↔ Matches s l)
  Proved: the same with `selOk s`, which only excludes `[a^=v] [a$=v] [a*=v]` with a NON-EMPTY
  BLANK `v`: the code never lets these operators match a blank attribute value (the repository's
  baseline tests require it), the definition lets `[a^=" "]` match `a="  "`.  Empty values,
  `~=`, class selectors and everything else are inside the proved domain.
-/
mutual
theorem matches_iff_spec_partial {S : Loc → Prop} (hS : DomOk S) :
      ∀ (s : Sel), selOk s = true → ∀ l, S l → (selMatch s l = true ↔ Matches s l)
    | .tag name, _, l, _ => tag_iff name l
    | .cls name, _, l, _ => cls_iff name l
    | .id name, _, l, _ => id_iff name l
    | .attr key val op ic, hs, l, hl => by
      have : selMatch (.attr key val op ic) l = attrMatch key val op ic l := by simp [selMatch]
      rw [this, Matches]
      exact attr_iff key val op ic l (by simpa [selOk] using hs)
    | .nth a b last ofType, _, l, _ => nth_iff a b last ofType l
    | .only ofType, _, l, _ => only_iff ofType l
    | .empty, _, l, _ => empty_iff l
    | .root, _, l, hl => root_iff l (hS.ok l hl)
    | .never _, _, l, _ => by simp [selMatch, Matches]
    | .rel k args, hs, l, hl => by
      have hs' : selsOk args = true := by simpa [selOk] using hs
      simp only [selMatch, Matches, IsElem, Bool.and_eq_true, beq_iff_eq]
      apply and_congr Iff.rfl
      cases k with
      | is => exact matchAny_iff_spec hS args hs' l hl
      | not =>
        simp only [Bool.not_eq_true', ← Bool.not_eq_true]
        exact not_congr (matchAny_iff_spec hS args hs' l hl)
      | has => exact any_iff_of_mem fun d hd => matchAny_iff_spec hS args hs' d (hS.desc l hl d hd)
      | haschild => exact any_iff_of_mem fun d hd => matchAny_iff_spec hS args hs' d (hS.kids l hl d hd)
    | .compound pe sels, hs, l, hl => by
      have hs' : selsOk sels = true := by simpa [selOk] using hs
      have hall := matchAll_iff_spec hS sels hs' l hl
      simp only [selMatch, Matches]
      cases sels with
      | nil => simp [MatchesAll, IsElem]
      | cons s ss =>
        simp only [List.isEmpty_cons, Bool.false_eq_true, ↓reduceIte, hall]
        constructor
        · intro h; exact ⟨matches_elem s l h.1, h⟩
        · intro h; exact h.2
    | .combined a c d, hs, l, hl => by
      have hs' : selOk a = true ∧ selOk d = true := by simpa [selOk] using hs
      have hd := matches_iff_spec_partial hS d hs'.2 l hl
      simp only [selMatch, Matches]
      cases c with
      | desc =>
        simp only [Bool.and_eq_true, hd]
        exact and_congr Iff.rfl
          (any_iff_of_mem fun p hp => matches_iff_spec_partial hS a hs'.1 p (hS.anc l hl p hp))
      | child =>
        simp only [Bool.and_eq_true, hd]
        apply and_congr Iff.rfl
        cases hp : l.parent? with
        | none => simp
        | some p =>
          have hSp := hS.anc l hl p (parent_mem_ancestors hp)
          simp only [Option.some.injEq, exists_eq_left']
          exact matches_iff_spec_partial hS a hs'.1 p hSp
      | sib =>
        simp only [Bool.and_eq_true, hd]
        exact and_congr Iff.rfl
          (any_iff_of_mem fun p hp => matches_iff_spec_partial hS a hs'.1 p (hS.prev l hl p hp))
      | adj =>
        simp only [Bool.and_eq_true, hd]
        apply and_congr Iff.rfl
        simp only [nearestPrevElem_iff (hS.ok l hl)]
        cases hf : adjacentOf l with
        | none => simp
        | some s =>
          have ih := matches_iff_spec_partial hS a hs'.1 s (hS.prev l hl s (List.mem_of_find?_eq_some hf))
          simp only [Option.some.injEq]
          constructor
          · intro h
            exact ⟨s, ⟨rfl, matches_elem a s (ih.1 h)⟩, ih.1 h⟩
          · rintro ⟨e, ⟨rfl, _⟩, hme⟩
            exact ih.2 hme
theorem matchAny_iff_spec {S : Loc → Prop} (hS : DomOk S) :
      ∀ (ss : List Sel), selsOk ss = true → ∀ l, S l → (matchAny ss l = true ↔ MatchesAny ss l)
    | [], _, l, _ => by simp [matchAny, MatchesAny]
    | s :: ss, hs, l, hl => by
      have hs' : selOk s = true ∧ selsOk ss = true := by simpa [selsOk] using hs
      simp only [matchAny, MatchesAny, Bool.or_eq_true,
        matches_iff_spec_partial hS s hs'.1 l hl, matchAny_iff_spec hS ss hs'.2 l hl]
theorem matchAll_iff_spec {S : Loc → Prop} (hS : DomOk S) :
      ∀ (ss : List Sel), selsOk ss = true → ∀ l, S l → (matchAll ss l = true ↔ MatchesAll ss l)
    | [], _, l, _ => by simp [matchAll, MatchesAll]
    | s :: ss, hs, l, hl => by
      have hs' : selOk s = true ∧ selsOk ss = true := by simpa [selsOk] using hs
      simp only [matchAll, MatchesAll, Bool.and_eq_true,
        matches_iff_spec_partial hS s hs'.1 l hl, matchAll_iff_spec hS ss hs'.2 l hl]
end

/-- a selector list (`SelectorGroup.Match`) represents what any of its selectors represents -/
theorem group_matches_iff_spec_partial {S : Loc → Prop} (hS : DomOk S) (ss : List Sel)
    (hs : selsOk ss = true) (l : Loc) (hl : S l) : matchAny ss l = true ↔ MatchesAny ss l :=
  matchAny_iff_spec hS ss hs l hl

/-- the model never matches a node that is not an element (shown through `Matches`, which holds of
    elements only) -/
theorem matches_only_elements {S : Loc → Prop} (hS : DomOk S) (s : Sel) (hs : selOk s = true)
    (l : Loc) (hl : S l) (h : selMatch s l = true) : l.kind = .elem :=
  matches_elem s l ((matches_iff_spec_partial hS s hs l hl).1 h)

/-- the nodes of any tree form a `DomOk` set as soon as each of them is `LocalOk` -/
theorem document_domOk (root : Node) (h : ∀ l ∈ allLocs root, LocalOk l) :
    DomOk (fun l => l ∈ allLocs root) :=
  domOk_allLocs root h

/-- C05, matching: for every tree whose nodes are `LocalOk`, every selector of the proved domain and
    every node of the tree, the model's `Match` is the Selectors relation. -/
theorem matches_iff_spec_document_partial (root : Node) (h : ∀ l ∈ allLocs root, LocalOk l)
    (s : Sel) (hs : selOk s = true) (l : Loc) (hl : l ∈ allLocs root) :
    selMatch s l = true ↔ Matches s l :=
  matches_iff_spec_partial (domOk_allLocs root h) s hs l hl

/-! ### the hypotheses are satisfiable; the excluded inputs are genuine counterexamples -/

/-- `<html><body><a></a> <b k="x"><!----></b></body></html>` under its Document node -/
def exampleDoc : Node :=
  .mk .doc [] [] [.mk .elem htmlTag [] [.mk .elem ['b', 'o', 'd', 'y'] [] [
    .mk .elem ['a'] [] [], .mk .text [' '] [] [], .mk .elem ['b'] [(['k'], ['x'])] [.mk .comment [] [] []]]]]

example : ∀ l ∈ allLocs exampleDoc, LocalOk l := by
  intro l hl
  simp only [allLocs, exampleDoc, allNode, allList, List.cons_append, List.nil_append, List.append_nil,
    List.mem_cons, List.not_mem_nil, or_false] at hl
  rcases hl with rfl | rfl | rfl | rfl | rfl | rfl | rfl
  all_goals
    refine ⟨?_, ?_, other_ok_of_none ?_⟩
  all_goals simp [Loc.kind, Loc.data, Node.kind, Node.data, Loc.parent?, Loc.plug, Loc.prevSibs, Loc.prevAux, htmlTag]

example : selOk (.combined (.rel .not [.cls [], .attr ['k'] [] .pre true, .attr ['k'] ['x', ' '] .sub true]) .adj (.compound [] [.tag ['b'], .nth (-2) 5 true true])) = true := by
  decide

/-- `<p a="x">` as the only child of a parent node -/
def witnessLoc : Loc :=
  ⟨.mk .elem ['p'] [(['a'], ['x'])] [], [⟨.doc, [], [], [], []⟩]⟩

/-! regression examples (former defects KF05-1: an empty value matches nothing) -/
example : selMatch (.attr ['a'] [] .pre false) witnessLoc = false := by decide
example : selMatch (.attr ['a'] [] .suf false) witnessLoc = false := by decide
example : selMatch (.attr ['a'] [] .sub false) witnessLoc = false := by decide
example : selMatch (.attr ['a'] [] .incl false)
    ⟨.mk .elem ['p'] [(['a'], [' ', 'x'])] [], [⟨.doc, [], [], [], []⟩]⟩ = false := by decide
example : selMatch (.attr ['a'] ['x'] .pre false) witnessLoc = true := by decide
/-- former KF05-6: a Doctype node with PUBLIC/SYSTEM "attributes" matches no attribute selector -/
example : selMatch (.attr ['p'] [] .has false) ⟨.mk .other [] [(['p'], ['x'])] [], []⟩ = false := by decide
/-- former KF05-5: a no-break space is not document white space -/
example : selMatch .empty ⟨.mk .elem ['p'] [] [.mk .text [Char.ofNat 0xa0] [] []], []⟩ = false := by decide
example : selMatch .empty ⟨.mk .elem ['p'] [] [.mk .text [' ', '\n'] [] [], .mk .comment ['c'] [] []], []⟩ = true := by decide
/-- former KF05-7: `:root` needs the Document node as parent -/
example : selMatch .root ⟨.mk .elem htmlTag [] [], [⟨.elem, ['s', 'v', 'g'], [], [], []⟩]⟩ = false := by decide
example : selMatch .root ⟨.mk .elem htmlTag [] [], [⟨.doc, [], [], [], []⟩]⟩ = true := by decide
/-- webrender detaches the root from its Document: a parentless `html` element is the root … -/
example : selMatch .root ⟨.mk .elem htmlTag [] [], []⟩ = true := by decide
/-- … and is nobody's first child -/
example : selMatch (.nth 0 1 false false) ⟨.mk .elem htmlTag [] [], []⟩ = false := by decide

/-- the documented deviation: `[a^=" "]` does not match `<p a="  ">` in the code (no prefix /
    suffix / substring operator matches a blank attribute value), the definition says it matches -/
theorem blank_value_deviation_witness :
    selMatch (.attr ['a'] [' '] .pre false)
      ⟨.mk .elem ['p'] [(['a'], [' ', ' '])] [], [⟨.doc, [], [], [], []⟩]⟩ = false ∧
    Matches (.attr ['a'] [' '] .pre false)
      ⟨.mk .elem ['p'] [(['a'], [' ', ' '])] [], [⟨.doc, [], [], [], []⟩]⟩ := by
  refine ⟨by decide, ?_⟩
  simp only [Matches, AttrHolds, ValHolds, IsElem]
  exact ⟨rfl, [' ', ' '], by simp [Loc.attrs, Node.attrs], by simp, [' '], [' '], rfl, rfl⟩

/-! ## specificity -/

mutual
/-- C05, specificity: for every selector, `Specificity()` is (ids, classes + attributes +
    pseudo-classes, types + pseudo-elements), `:is/:not/:has` weighing as their most specific
    argument (the `Less` fold returns a lexicographic maximum). -/
theorem specificity_eq_spec : ∀ (s : Sel), HasSpecificity s (specificity s)
    | .tag _ => by simp [HasSpecificity, specificity]
    | .cls _ => by simp [HasSpecificity, specificity]
    | .id _ => by simp [HasSpecificity, specificity]
    | .attr _ _ _ _ => by simp [HasSpecificity, specificity]
    | .nth _ _ _ _ => by simp [HasSpecificity, specificity]
    | .only _ => by simp [HasSpecificity, specificity]
    | .empty => by simp [HasSpecificity, specificity]
    | .root => by simp [HasSpecificity, specificity]
    | .never _ => by simp [HasSpecificity, specificity]
    | .rel k args => by
      simp only [HasSpecificity, specificity, specMax_eq]
      exact ⟨args.map specificity, list_specificity args, maxLoop_mostSpecific _⟩
    | .compound pe sels => by
      simp only [HasSpecificity, specificity, specSum_eq, spec_zero_add]
      refine ⟨sels.map specificity, list_specificity sels, ?_⟩
      cases pe <;> simp [spec_add_zero]
    | .combined a _ d => by
      simp only [HasSpecificity, specificity]
      exact ⟨_, _, specificity_eq_spec a, specificity_eq_spec d, rfl⟩
theorem list_specificity : ∀ (ss : List Sel), ListSpecificity ss (ss.map specificity)
    | [] => by simp [ListSpecificity]
    | s :: ss => by
      simp only [ListSpecificity, List.map_cons, List.cons.injEq]
      exact ⟨_, _, ⟨rfl, rfl⟩, specificity_eq_spec s, list_specificity ss⟩
end

/-- regression example (former KF05-3): `a:not(:hover)` weighs (0,1,1) -/
example : specificity (.compound [] [.tag ['a'], .rel .not [.never [':', 'h', 'o', 'v', 'e', 'r']]]) = ⟨0, 1, 1⟩ := by
  decide

/-- the lexicographic order is antisymmetric: "the most specific argument" has a unique weight -/
theorem specLe_antisymm {x y : Specificity} (h1 : SpecLe x y) (h2 : SpecLe y x) : x = y := by
  obtain ⟨a, b, c⟩ := x
  obtain ⟨a', b', c'⟩ := y
  simp only [SpecLe] at h1 h2
  simp only [Specificity.mk.injEq]; omega

/-! ## the parser -/

open WR.C05.Parse in
/-- C05, parser: the model of `selector.ParseGroup` terminates on EVERY text with a selector list, a
    syntax error or "outside the modelled grammar" — the fuel it runs on (`4·|text| + 8`; `2·|text| + 5`
    suffice) is never exhausted, although `:not( … )` re-enters the whole grammar. -/
theorem parse_total (s : Str) :
    (∃ g, parseGroupText s = .ok g) ∨ parseGroupText s = .error .malformed ∨
      parseGroupText s = .error .unsupported := by
  have hG := (allGood (fuelFor s)).G s (by unfold fuelFor; omega)
  unfold parseGroupText
  split
  · rename_i e he
    cases e with
    | malformed => exact Or.inr (Or.inl rfl)
    | unsupported => exact Or.inr (Or.inr rfl)
    | fuel => exact absurd he hG.1
  · exact Or.inl ⟨_, rfl⟩
  · exact Or.inr (Or.inl rfl)

open WR.C05.Parse in
/-- every parser function consumes input: what `parseSelectorGroup` leaves is shorter than its input -/
theorem parse_consumes (fuel : Nat) (s : Str) (g : List Sel) (r : Str)
    (hf : 2 * s.length + 5 ≤ fuel) (h : parseGroupF fuel s = .ok (g, r)) : r.length < s.length :=
  ((allGood fuel).G s hf).2 g r h

open WR.C05.Parse in
/-- the specificity of every selector the parser returns is the Selectors specificity of that selector -/
theorem parsed_specificity_eq_spec (text : Str) (g : List Sel) (_h : parseGroupText text = .ok g) :
    ∀ s ∈ g, HasSpecificity s (specificity s) :=
  fun s _ => specificity_eq_spec s

section
open WR.C05.Parse WR.C05.Print
/-! ## print → parse -/

/-- C05, "a parsed selector printed back parses to an equivalent selector": for every selector list of
    the shapes the parser builds (`groupPrintable`: non-empty names without U+0000, lower-case tag and
    attribute names, type selector first, known pseudo-elements, `:is/:not/:has` lists non-empty,
    left-nested combinators — nested lists to any depth), parsing the printed text gives back the SAME
    list (`parseGroupF_print`, by mutual structural recursion over the selector). -/
theorem print_parse_roundtrip (g : List Sel) (h : groupPrintable g = true) :
    parseGroupText (printGroup g) = .ok g := by
  have := parseGroupF_print g h (fuelFor (printGroup g)) [] trivial
    (by simp only [List.append_nil, fuelFor]; omega)
  simp only [List.append_nil] at this
  unfold parseGroupText
  rw [this]

/-- one printable selector: `Parse(s.String())` is `s` -/
theorem print_parse_roundtrip_one (s : Sel) (h : wf 3 s = true) :
    parseGroupText (printSel s) = .ok [s] := by
  have := print_parse_roundtrip [s] (by simp [groupPrintable, wfs, h])
  simpa [printGroup] using this

example : groupPrintable [.combined (.compound [] [.tag ['a'], .cls ['1', '.']]) .child
    (.compound "before".toList [.rel .not [.attr ['k'] ['"'] .pre true, .nth (-2) 3 true false]])] = true := by
  decide

/-- the printed form selects the same elements and weighs the same: the re-parsed list is the list -/
theorem print_preserves_matching (g : List Sel) (h : groupPrintable g = true) :
    ∃ g', parseGroupText (printGroup g) = .ok g' ∧
      (∀ l, matchAny g' l = matchAny g l) ∧ g'.map specificity = g.map specificity ∧
      g'.map pseudoElement = g.map pseudoElement :=
  ⟨g, print_parse_roundtrip g h, fun _ => rfl, rfl, rfl⟩

/-- … and, on a well-formed document and inside `selOk`, exactly the elements the Selectors
    definition assigns to the ORIGINAL list -/
theorem printed_selects_spec {S : Loc → Prop} (hS : DomOk S) (g : List Sel)
    (h : groupPrintable g = true) (hs : selsOk g = true) :
    ∃ g', parseGroupText (printGroup g) = .ok g' ∧
      ∀ l, S l → (matchAny g' l = true ↔ MatchesAny g l) :=
  ⟨g, print_parse_roundtrip g h, fun l hl => matchAny_iff_spec hS g hs l hl⟩

end

end WR.Props.C05
